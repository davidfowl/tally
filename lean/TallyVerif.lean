import TallyVerif.Model.ClassPrelude
import TallyVerif.Model.Num
import TallyVerif.Gen.ClassPy
import TallyVerif.Gen.ClassJs
import TallyVerif.Lemmas.ClassSets
import TallyVerif.Props.C13
import TallyVerif.Model.Totals
import TallyVerif.Lemmas.Assoc
import TallyVerif.Lemmas.TotalsInt
import TallyVerif.Props.C06
import TallyVerif.Model.Rules
import TallyVerif.Model.Specificity
import TallyVerif.Gen.Specificity
import TallyVerif.Lemmas.Rules
import TallyVerif.Props.C01
import TallyVerif.Props.C02
import TallyVerif.Props.C09
import TallyVerif.Model.Report
import TallyVerif.Lemmas.Report
import TallyVerif.Gen.ReportTypes
import TallyVerif.Model.ReportTypes
import TallyVerif.Lemmas.ReportTypes
import TallyVerif.Props.C12
import TallyVerif.Model.RulesFile
import TallyVerif.Lemmas.RulesFile
import TallyVerif.Lemmas.RulesBlock
import TallyVerif.Props.C17
import TallyVerif.Gen.FmtTables
import TallyVerif.Model.Fmt
import TallyVerif.Lemmas.Fmt
import TallyVerif.Lemmas.FmtInspect
import TallyVerif.Props.C18
import TallyVerif.Model.Csv
import TallyVerif.Lemmas.Text
import TallyVerif.Lemmas.Csv
import TallyVerif.Lemmas.CsvReader
import TallyVerif.Model.Strptime
import TallyVerif.Lemmas.Strptime
import TallyVerif.Gen.AmountTables
import TallyVerif.Lemmas.AmountTables
import TallyVerif.Props.C05
import TallyVerif.Model.Val
import TallyVerif.Model.Expr
import TallyVerif.Model.ExprNames
import TallyVerif.Model.Engine
import TallyVerif.Gen.ExprTables
import TallyVerif.Model.Sandbox
import TallyVerif.Lemmas.ExprUnfold
import TallyVerif.Lemmas.AsciiCase
import TallyVerif.Lemmas.Scope
import TallyVerif.Lemmas.NameCase
import TallyVerif.Props.C03
import TallyVerif.Props.C04
import TallyVerif.Props.C08
import TallyVerif.Model.Migrate
import TallyVerif.Lemmas.Migrate
import TallyVerif.Model.Legacy
import TallyVerif.Gen.ModifierTables
import TallyVerif.Lemmas.Legacy
import TallyVerif.Props.C14
import TallyVerif.Model.Discover
import TallyVerif.Lemmas.Discover
import TallyVerif.Props.C19
import TallyVerif.Model.View
import TallyVerif.Lemmas.View
import TallyVerif.Props.C10
import TallyVerif.Model.Fs
import TallyVerif.Gen.FsSteps
import TallyVerif.Lemmas.FsBase
import TallyVerif.Lemmas.FsFrame
import TallyVerif.Lemmas.FsFault
import TallyVerif.Lemmas.FsInit
import TallyVerif.Lemmas.FsMigration
import TallyVerif.Lemmas.FsSteady
import TallyVerif.Lemmas.FsLayout
import TallyVerif.Lemmas.FsUp
import TallyVerif.Lemmas.FsUpRun
import TallyVerif.Lemmas.FsWrites
import TallyVerif.Lemmas.FsKeeps
import TallyVerif.Props.C15
import TallyVerif.Props.C20
import TallyVerif.Model.History
import TallyVerif.Props.C07
import TallyVerif.Model.Pipeline
import TallyVerif.Gen.ConfigTables
import TallyVerif.Model.Config
import TallyVerif.Lemmas.MapM
import TallyVerif.Lemmas.Lists
import TallyVerif.Lemmas.Config
import TallyVerif.Model.PipelineCfg
import TallyVerif.Lemmas.Pipeline
import TallyVerif.Props.C11
import TallyVerif.Props.C16
