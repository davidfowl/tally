import TallyVerif.Model.View
import TallyVerif.Lemmas.Lists
/-! Helper lemmas for C10.  The Python dicts of the view engine are association lists built by `setKey` / `appendAt`.
The result of `classify_merchants` and the monthly totals of `get_cv` are brought to the form `tab ks f` — keys `ks`
in insertion order, value `f k` at `k` — in which the key list and every lookup can be read off; the HTML report's
sections, under distinct ids, to a plain `map` (every `setKey` appends). -/
namespace TallyVerif.View
open TallyVerif.Py TallyVerif.Expr

section Tab

/-- the Python dict with keys `ks` (insertion order) holding `f k` at `k` -/
def tab {β : Type} (ks : List String) (f : String → β) : List (String × β) := ks.map (fun k => (k, f k))

theorem tab_keys {β : Type} (ks : List String) (f : String → β) : (tab ks f).map (·.1) = ks := by
  simp [tab, Function.comp_def]

theorem tab_congr {β : Type} {ks : List String} {f g : String → β} (h : ∀ k ∈ ks, f k = g k) : tab ks f = tab ks g :=
  List.map_congr_left (fun k hk => by rw [h k hk])

theorem lookup_tab {β : Type} (ks : List String) (f : String → β) (k : String) :
    (tab ks f).lookup k = if k ∈ ks then some (f k) else none := by
  induction ks with
  | nil => rfl
  | cons a ks ih =>
    by_cases h : k = a
    · simp [tab, h]
    · have hb : (k == a) = false := by simpa using h
      simpa [tab, List.lookup_cons, hb, h] using ih

theorem getD_lookup_tab {β : Type} (ks : List String) (f : String → β) (k : String) (d : β) (h : k ∉ ks → f k = d) :
    ((tab ks f).lookup k).getD d = f k := by
  rw [lookup_tab]
  split
  · rfl
  · exact (h ‹_›).symm

theorem setKey_tab {β : Type} (k : String) (v : β) (ks : List String) (f : String → β) :
    setKey k v (tab ks f) = tab (addNew k ks) (fun k' => if k' = k then v else f k') := by
  unfold setKey addNew
  rw [lookup_tab]
  by_cases h : k ∈ ks
  · simp only [h, if_true, Option.isSome_some, List.contains_eq_mem, decide_true, tab, List.map_map]
    exact List.map_congr_left (fun a _ => by by_cases e : a = k <;> simp [e])
  · have hc : ks.contains k = false := by simpa using h
    simp only [h, if_false, Option.isSome_none, Bool.false_eq_true, hc, tab, List.map_append, List.map_cons, List.map_nil, if_true]
    congr 1
    exact List.map_congr_left (fun a ha => by rw [if_neg (fun (e : a = k) => h (e ▸ ha))])

theorem appendAt_tab {α : Type} {n : String} {x : α} {ks : List String} {f : String → List α} (h : ks.Nodup) :
    appendAt n x (tab ks f) = tab ks (fun k => f k ++ if n = k then [x] else []) := by
  induction ks with
  | nil => rfl
  | cons a ks ih =>
    rw [List.nodup_cons] at h
    by_cases e : a = n
    · subst e
      simp only [tab, List.map_cons, appendAt, beq_self_eq_true, if_true, List.cons.injEq, true_and]
      exact List.map_congr_left (fun k hk => by rw [if_neg (fun (e : a = k) => h.1 (e ▸ hk)), List.append_nil])
    · have hb : (a == n) = false := by simpa using e
      have e' : ¬ n = a := fun h => e h.symm
      simp only [tab, List.map_cons, appendAt, hb, Bool.false_eq_true, if_false, e', List.append_nil, List.cons.injEq, true_and]
      exact ih h.2

theorem keys_appendAt {α : Type} (n : String) (x : α) (l : List (String × List α)) :
    (appendAt n x l).map (·.1) = l.map (·.1) := by
  fun_induction appendAt n x l <;> simp [*]

theorem lookup_appendAt {α : Type} (name n : String) (x : α) (l : List (String × List α)) :
    (appendAt n x l).lookup name = if n = name then (l.lookup name).map (· ++ [x]) else l.lookup name := by
  induction l with
  | nil => simp [appendAt]
  | cons kv l ih =>
    obtain ⟨k, xs⟩ := kv
    by_cases hn : name = k
    · subst hn
      by_cases hk : name = n
      · simp [appendAt, hk]
      · simp [appendAt, hk, show ¬ n = name from fun e => hk e.symm]
    · have hb : (name == k) = false := by simpa using hn
      by_cases hk : k = n
      · subst hk; simp [appendAt, List.lookup_cons, hb, show ¬ k = name from fun e => hn e.symm]
      · simp [appendAt, List.lookup_cons, hb, hk, ih]

end Tab

section FirstSeen

/-- the distinct elements of `l`, each at its first occurrence (`set.add` / dict keys in Python) -/
def firstSeen (acc l : List String) : List String := l.foldl (fun acc k => addNew k acc) acc

theorem mem_addNew (k x : String) (l : List String) : x ∈ addNew k l ↔ x ∈ l ∨ x = k := List.mem_addIfNew

theorem addNew_nodup (k : String) (l : List String) (h : l.Nodup) : (addNew k l).Nodup := by
  fun_cases addNew k l
  next => exact h
  next hc => exact List.nodup_concat.mpr ⟨h, by simpa using hc⟩

theorem firstSeen_nodup (l : List String) : (firstSeen [] l).Nodup :=
  List.foldlRecOn l _ List.nodup_nil (fun acc hacc k _ => addNew_nodup k acc hacc)

theorem mem_firstSeen (acc l : List String) (x : String) : x ∈ firstSeen acc l ↔ x ∈ acc ∨ x ∈ l :=
  List.mem_foldl_addIfNew l acc

theorem firstSeen_of_nodup {l : List String} (h : l.Nodup) : firstSeen [] l = l := by
  refine List.foldl_induction (fun acc k => addNew k acc) [] (fun l acc => l.Nodup → acc = l) (fun _ => rfl)
    (fun l k acc ih h => ?_) l h
  rw [List.nodup_concat] at h
  rw [ih h.1, addNew, if_neg (by simpa using h.2)]

end FirstSeen

section Classify

theorem initResult_eq {α : Type} (names : List String) :
    initResult (α := α) names = tab (firstSeen [] names) (fun _ => []) := by
  unfold initResult
  exact List.foldl_hom (fun ks => tab ks (fun _ => [])) (g₁ := fun acc k => addNew k acc) (init := []) (fun ks n => by
    rw [lookup_tab, addNew]
    by_cases h : n ∈ ks <;> simp [h, tab])

theorem foldl_tab_append {ι α : Type} (ks : List String) (step : ι → List (String × List α) → List (String × List α))
    (G : ι → String → List α) (hstep : ∀ i f, step i (tab ks f) = tab ks (fun k => f k ++ G i k))
    (l : List ι) (f : String → List α) :
    l.foldl (fun acc i => step i acc) (tab ks f) = tab ks (fun k => f k ++ l.flatMap (fun i => G i k)) := by
  induction l generalizing f with
  | nil => simp
  | cons i l ih => simp [List.foldl_cons, hstep, ih, List.flatMap_cons, List.append_assoc]

/-- every key is a view name at its first occurrence; its entry lists, merchant by merchant, one copy per view of
that name whose test holds -/
theorem classifyMerchants_eq {μ : Type} (test : μ → Section → Bool) (secs : List Section) (ms : List μ) :
    classifyMerchants test secs ms = tab (firstSeen [] (secs.map (·.name)))
      (fun k => ms.flatMap (fun m => secs.flatMap (fun s => if test m s && s.name == k then [m] else []))) := by
  unfold classifyMerchants
  rw [initResult_eq]
  have hn := firstSeen_nodup (secs.map (·.name))
  rw [foldl_tab_append _ (fun m acc => secs.foldl (fun acc s => if test m s then appendAt s.name m acc else acc) acc)
    (fun m k => secs.flatMap (fun s => if test m s && s.name == k then [m] else []))]
  · simp
  · intro m f  -- the step of the loop over the merchants is the loop over the views, of the same form
    refine foldl_tab_append _ (fun s acc => if test m s then appendAt s.name m acc else acc) _ ?_ secs f
    intro s f
    by_cases ht : test m s = true
    · simp [ht, appendAt_tab hn]
    · simp [ht]

theorem members_classifyMerchants_eq {μ : Type} (test : μ → Section → Bool) (secs : List Section) (ms : List μ) (k : String) :
    members (classifyMerchants test secs ms) k =
      ms.flatMap (fun m => secs.flatMap (fun s => if test m s && s.name == k then [m] else [])) := by
  rw [members, classifyMerchants_eq, getD_lookup_tab]
  -- off the keys no view has the name `k`, and the entry is empty by its own formula
  intro hk
  simp only [mem_firstSeen, List.not_mem_nil, false_or, List.mem_map, not_exists, not_and] at hk
  simp only [List.flatMap_eq_nil_iff]
  exact fun m _ s hs => by simp [hk s hs]

theorem mem_members_classifyMerchants {μ : Type} (test : μ → Section → Bool) (secs : List Section) (ms : List μ)
    (name : String) (m : μ) :
    m ∈ members (classifyMerchants test secs ms) name ↔ m ∈ ms ∧ ∃ s ∈ secs, s.name = name ∧ test m s = true := by
  simp only [members_classifyMerchants_eq, List.mem_flatMap, List.mem_ite_nil_right, List.mem_singleton, Bool.and_eq_true,
    beq_iff_eq]
  exact ⟨fun ⟨_, hm, s, hs, ⟨ht, hn⟩, e⟩ => e ▸ ⟨hm, s, hs, hn, ht⟩, fun ⟨hm, s, hs, hn, ht⟩ => ⟨m, hm, s, hs, ⟨ht, hn⟩, rfl⟩⟩

theorem keys_classifyMerchants_nodup {μ : Type} (test : μ → Section → Bool) (secs : List Section) (ms : List μ) :
    ((classifyMerchants test secs ms).map (·.1)).Nodup := by
  rw [classifyMerchants_eq, tab_keys]; exact firstSeen_nodup _

theorem entry_of_nodup {μ : Type} (test : μ → Section → Bool) (secs : List Section) (ms : List μ) (s : Section)
    (hs : s ∈ secs) (hd : (secs.map (·.name)).Nodup) :
    ms.flatMap (fun m => secs.flatMap (fun s' => if test m s' && s'.name == s.name then [m] else [])) =
      ms.filter (fun m => test m s) := by
  -- `s` is the only view of its name: the views before and after it contribute nothing
  obtain ⟨l₁, l₂, rfl⟩ := List.append_of_mem hs
  simp only [List.map_append, List.map_cons, List.nodup_append, List.nodup_cons, List.mem_map, List.mem_cons] at hd
  obtain ⟨_, ⟨hafter, _⟩, hbefore⟩ := hd
  have off : ∀ l : List Section, (∀ x ∈ l, ¬ x.name = s.name) → ∀ m,
      l.flatMap (fun s' => if test m s' && s'.name == s.name then [m] else []) = [] :=
    fun l h m => List.flatMap_eq_nil_iff.mpr (fun x hx => by simp [h x hx])
  simp only [List.flatMap_append, List.flatMap_cons, off l₁ (fun x hx e => hbefore _ ⟨x, hx, rfl⟩ _ (Or.inl rfl) e),
    off l₂ (fun x hx e => hafter ⟨x, hx, e⟩), List.nil_append, List.append_nil, beq_self_eq_true, Bool.and_true]
  induction ms with
  | nil => rfl
  | cons m ms ih => by_cases h : test m s = true <;> simp [List.flatMap_cons, h, ih]

theorem members_classifyMerchants {μ : Type} (test : μ → Section → Bool) (secs : List Section) (ms : List μ)
    (s : Section) (hs : s ∈ secs) (hd : (secs.map (·.name)).Nodup) :
    members (classifyMerchants test secs ms) s.name = ms.filter (fun m => test m s) := by
  rw [members_classifyMerchants_eq, entry_of_nodup test secs ms s hs hd]

theorem classifyMerchants_of_nodup {μ : Type} (test : μ → Section → Bool) (secs : List Section) (ms : List μ)
    (hd : (secs.map (·.name)).Nodup) :
    classifyMerchants test secs ms = secs.map (fun s => (s.name, ms.filter (fun m => test m s))) := by
  rw [classifyMerchants_eq, firstSeen_of_nodup hd, tab, List.map_map]
  exact List.map_congr_left (fun s hs => by simp only [Function.comp, entry_of_nodup test secs ms s hs hd])

theorem holds_iff (c : Bool) (o : Oracles) (g : List (String × Expr)) (pd : List (String × Val))
    (txns : List Txn) (s : Section) : holds c o g pd txns s = true ↔ holdsE c o g pd txns s = .ok true := by
  unfold holds
  cases h : holdsE c o g pd txns s with
  | error e => simp
  | ok b => cases b <;> simp

theorem classifyViews_eq (c : Bool) (o : Oracles) (lower : String → String) (cfg : Config) (n : Nat)
    (ms : List Merchant) (hd : (cfg.sections.map (·.name)).Nodup) :
    classifyViews c o lower cfg n ms = cfg.sections.map (fun v => (v.name, (keptMerchants lower ms).filter
      (fun m => holds c o cfg.globals (periodData n (keptMerchants lower ms)) (sectionTxns m) v))) :=
  classifyMerchants_of_nodup _ _ _ hd

theorem aborts_eq_none {c : Bool} {o : Oracles} {lower : String → String} {cfg : Config} {n : Nat} {ms : List Merchant}
    (h : ∀ m ∈ keptMerchants lower ms, ∀ v ∈ cfg.sections,
      ∃ b, holdsE c o cfg.globals (periodData n (keptMerchants lower ms)) (sectionTxns m) v = .ok b) :
    aborts c o lower cfg n ms = none := by
  simp only [aborts, List.findSome?_eq_none_iff, List.mem_flatMap, List.mem_map]
  rintro _ ⟨m, hm, v, hv, rfl⟩
  obtain ⟨b, hb⟩ := h m hm v hv
  rw [hb]

end Classify

section Html

theorem setKey_fresh {β : Type} {k : String} {v : β} {d : List (String × β)} (h : k ∉ d.map (·.1)) :
    setKey k v d = d ++ [(k, v)] := by
  have : d.lookup k = none := List.lookup_eq_none_iff.mpr (fun p hp => by
    simpa using fun (e : k = p.1) => h (List.mem_map.mpr ⟨p, hp, e.symm⟩))
  simp [setKey, this]

theorem mem_setKey {β : Type} {k : String} {v : β} {d : List (String × β)} {x : String × β} (h : x ∈ setKey k v d) :
    x ∈ d ∨ x = (k, v) := by
  unfold setKey at h
  split at h
  · obtain ⟨z, hz, e⟩ := List.mem_map.mp h  -- the key is there: `x` is an old entry `z`, or the one put in its place
    split at e
    · exact Or.inr e.symm
    · exact Or.inl (e ▸ hz)
  · simpa using h

theorem foldl_setKey_fresh {ι β : Type} (key : ι → String) (val : ι → β) (l : List ι) (h : (l.map key).Nodup) :
    l.foldl (fun d i => setKey (key i) (val i) d) [] = l.map (fun i => (key i, val i)) := by
  refine List.foldl_induction _ [] (fun l d => (l.map key).Nodup → d = l.map fun i => (key i, val i)) (fun _ => rfl)
    (fun l i d ih h => ?_) l h
  rw [List.map_append, List.map_singleton, List.nodup_concat] at h
  rw [ih h.1, List.map_append]
  exact setKey_fresh (by rw [List.map_map]; exact h.2)

theorem lookup_filter_of_nodup {α : Type} (r : List (String × List α)) (name : String)
    (hk : (r.map (·.1)).Nodup) :
    ((r.filter (fun p => !p.2.isEmpty)).lookup name).getD [] = (r.lookup name).getD [] := by
  induction r with
  | nil => rfl
  | cons p r ih =>
    obtain ⟨k, xs⟩ := p
    rw [List.map_cons, List.nodup_cons] at hk
    by_cases hname : name = k
    · subst hname
      -- an empty entry is dropped, and no later entry has its key
      have hnone : (r.filter (fun p => !p.2.isEmpty)).lookup name = none := List.lookup_eq_none_iff.mpr (fun q hq => by
        simpa using fun (e : name = q.1) => hk.1 (List.mem_map.mpr ⟨q, (List.mem_filter.mp hq).1, e.symm⟩))
      cases xs <;> simp [hnone]
    · have hb : (name == k) = false := by simpa using hname
      cases xs <;> simpa [List.filter_cons, List.lookup_cons, hb] using ih hk.2

end Html

section Aggregates

theorem sumGo_ints (xs : List Int) (a : Int) (vals : List Val) (has : Bool) :
    sumGo (xs.map Val.int) { vals := vals, cur := .int a, has := has, fsum := none } = .ok (.int (a + xs.sum)) := by
  induction xs generalizing a with
  | nil => simp [sumGo, sumFinish]
  | cons x xs ih =>
    simp only [List.map_cons, sumGo, sumStep, pyArith, asNumber]
    rw [ih]
    simp [Int.add_assoc]

theorem pySum_map_int {τ : Type} {val : τ → Val} {l : List τ} (h : ∀ t ∈ l, ∃ i, val t = .int i) :
    pySum (l.map val) = .ok (.int (l.map (fun t => match val t with | .int i => i | _ => 0)).sum) := by
  have hl : l.map val = (l.map fun t => match val t with | .int i => i | _ => 0).map Val.int := by
    rw [List.map_map]
    exact List.map_congr_left (fun t ht => by obtain ⟨i, hi⟩ := h t ht; simp [hi])
  rw [hl, pySum, emptyAcc, sumGo_ints, Int.zero_add]

theorem aggStddev_ok (o : Oracles) (v : VVal) (r : Val) (h : aggStddev o v = .ok r) :
    ∃ n, lenOf v = some n ∧
      ((n < 2 ∧ r = .int 0) ∨ (2 ≤ n ∧ ∃ xs b, iterOf v = some xs ∧ o.stdev xs = some (.ok b) ∧ r = .flt b)) := by
  revert h
  fun_cases aggStddev o v with
  | case1 hl => intro h; cases h
  | case2 n hl hn => intro h; cases h; exact ⟨n, hl, Or.inl ⟨hn, rfl⟩⟩  -- fewer than two values
  | case3 n hl hn xs hi =>  -- two or more: the outcome is `pyStdev`'s
    fun_cases pyStdev o xs with
    | case1 hnum b ho => intro h; cases h; exact ⟨n, hl, Or.inr ⟨by omega, xs, b, hi, ho, rfl⟩⟩  -- the oracle has a float
    | case2 hnum c ho => intro h; cases h
    | case3 hnum ho => intro h; cases h
    | case4 hnum => intro h; cases h
  | case4 n hl hn hi => intro h; cases h

end Aggregates

section Months

def monthKeys (txns : List Txn) : List String :=
  txns.filterMap (fun t => t.date.map fmtYm)

theorem monthSet_eq (txns : List Txn) : monthSet txns = firstSeen [] (monthKeys txns) := by
  unfold monthSet firstSeen monthKeys
  rw [List.foldl_filterMap]
  congr 1
  funext acc t
  cases t.date <;> rfl

def intAmount (t : Txn) : Int := match t.amount with | .int i => i | _ => 0

/-- Σ of the amounts of the dated transactions whose month key is `k` -/
def monthSum (k : String) (txns : List Txn) : Int :=
  ((txns.filter (fun t => t.date.map fmtYm == some k)).map intAmount).sum

theorem monthSum_cons (k : String) (t : Txn) (rest : List Txn) :
    monthSum k (t :: rest) = (if t.date.map fmtYm = some k then intAmount t else 0) + monthSum k rest := by
  unfold monthSum
  by_cases h : t.date.map fmtYm = some k <;> simp [h]

/-- `f` = what the dictionary held before the loop, 0 off its keys -/
theorem monthlyGo_tab (txns : List Txn) (hint : ∀ t ∈ txns, ∃ i, t.amount = .int i) (ks : List String)
    (f : String → Int) (hf : ∀ k, k ∉ ks → f k = 0) :
    monthlyGo txns (tab ks (fun k => Val.int (f k))) =
      .ok (tab (firstSeen ks (monthKeys txns)) (fun k => Val.int (f k + monthSum k txns))) := by
  induction txns generalizing ks f with
  | nil => simp [monthlyGo, firstSeen, monthKeys, monthSum]
  | cons t rest ih =>
    have hrest : ∀ t ∈ rest, ∃ i, t.amount = .int i := fun x hx => hint x (List.mem_cons_of_mem _ hx)
    obtain ⟨i, hi⟩ := hint t (List.mem_cons_self ..)
    unfold monthlyGo monthKeys
    cases hd : t.date with
    | none =>
      simp only [List.filterMap_cons, hd, Option.map_none, monthSum_cons, if_false, Int.zero_add, reduceCtorEq]
      exact ih hrest ks f hf
    | some dt =>
      -- the loop body on `tab ks f` reads `f` at the month (0 if the month is new), adds `i` and stores the sum (`setKey_tab`):
      -- a `tab` again, on the keys and the function at which the induction hypothesis is taken below
      simp only [getD_lookup_tab ks (fun k => Val.int (f k)) (fmtYm dt) (Val.int 0) (fun hk => by rw [hf _ hk]), hi, pyArith,
        asNumber, setKey_tab, List.filterMap_cons, hd, Option.map_some]
      have := ih hrest (addNew (fmtYm dt) ks) (fun k => if k = fmtYm dt then f (fmtYm dt) + i else f k) (fun k hk => by
        rw [mem_addNew, not_or] at hk
        rw [if_neg hk.2, hf k hk.1])
      simp only [apply_ite Val.int] at this ⊢
      rw [this]
      congr 1
      refine tab_congr (fun k _ => ?_)
      rw [monthSum_cons, hd]  -- both sides have `i` exactly at `k = fmtYm dt`
      by_cases e : k = fmtYm dt
      · simp [e, intAmount, hi, Int.add_assoc]
      · simp [e, Ne.symm e]

end Months

section Stages

theorem evalBool_append (o : Oracles) (ctx : Ctx) (isAnd : Bool) (as bs : List Expr) :
    evalBool o ctx isAnd (as ++ bs) =
      (match evalBool o ctx isAnd as with
       | .ok b => if b = isAnd then evalBool o ctx isAnd bs else .ok b
       | .error e => .error e) := by
  induction as with
  | nil => simp [evalBool]
  | cons a as ih =>
    simp only [List.cons_append, evalBool, ih]
    cases eval o ctx a with
    | error e => rfl
    | ok x => cases isAnd <;> cases h : truthyV x <;> simp [h]

theorem evalBool_singleton (o : Oracles) (ctx : Ctx) (isAnd : Bool) (e : Expr) :
    evalBool o ctx isAnd [e] = (eval o ctx e).map truthyV := by
  simp only [evalBool]
  cases eval o ctx e with
  | error e => rfl
  | ok x => cases isAnd <;> cases h : truthyV x <;> simp [Except.map, h]

theorem eval_in_tags (o : Oracles) (ctx : Ctx) (s id l : String) (T : List String)
    (hn : lowerName id = "tags") (hv : ctx.variables.lookup "tags" = none)
    (hl : pyLowerE o s = .ok l) (hT : getTags o ctx = .ok T) :
    eval o ctx (.cmp (.const (.str s)) [.mk .isIn (.name id)]) = .ok (.v (.bool (T.contains l))) := by
  simp only [eval, evalLinks, lookupName, hn, hv, hT, Except.map, cmpLinkV, inV, hl]
  cases T.contains l <;> rfl

theorem holdsE_stages (c : Bool) (o : Oracles) {globals : List (String × Expr)} {pd : List (String × Val)}
    {txns : List Txn} (v : Section) (g vars : Vars)
    (hg : evalVariables c o txns pd globals [] = .ok g)
    (hl : (if v.variables.isEmpty then .ok g else evalVariables c o txns pd v.variables g) = .ok vars) :
    holdsE c o globals pd txns v =
      (match evalRoot c o { txns := txns, variables := vars, period := pd } v.filter with
       | .ok x => .ok (truthyV x)
       | .error (.expr _) => .ok false
       | .error err => .error err) := by
  simp only [holdsE, hg, sectionHoldsE, hl]
  rfl

theorem gaveUp_of_evalRoot {o : Oracles} {ctx : Ctx} {e : Expr} {err : Err}
    (h : evalRoot true o ctx e = .error err) (hne : ∀ t, err ≠ .expr t) : ∃ w, err = .unmodelled w := by
  unfold evalRoot at h
  split at h
  next => cases h
  next => cases h; exact absurd rfl (hne _)  -- a Python exception, converted
  next hpy _ =>
    cases h
    cases err with
    | expr t => exact absurd rfl (hne t)
    | py cls => exact absurd rfl (hpy cls)
    | unmodelled w => exact ⟨w, rfl⟩

theorem evalVariables_true_error {o : Oracles} {txns : List Txn} {pd : List (String × Val)}
    {vars : List (String × Expr)} {res : Vars} {err : Err}
    (h : evalVariables true o txns pd vars res = .error err) : ∃ w, err = .unmodelled w := by
  revert h
  fun_induction evalVariables true o txns pd vars res
  next => intro h; cases h
  next ih => exact ih
  next ih => exact ih
  next hne heq => intro h; cases h; exact gaveUp_of_evalRoot heq hne  -- neither a value nor an ExpressionError

end Stages

end TallyVerif.View
