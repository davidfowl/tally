import TallyVerif.Model.ReportTypes
import TallyVerif.Lemmas.TotalsInt
/-! For the `typeTotals` theorems of Props/C12: the report's tag chain and `categorize_amount` are compared tag class by tag class
(`contrib_cases`), and a sum over the categories of the report is regrouped into a sum over the transactions
(`type_totals_regroup`, by `sumBy_accumFrom`). -/

namespace TallyVerif.ReportTypes
open TallyVerif TallyVerif.Gen TallyVerif.Gen.ReportTypes TallyVerif.Totals

abbrev T := Txn Int

/-- `build_category_view`'s chain and `categorize_amount` test the same three tags in the same order: a statement about the
pair holds as soon as it holds under each of the four tag classes (the sign tests are left to the caller) -/
theorem contrib_cases (N : NumLike) (lower : String → String) (a : N.α) (tags : Option (List String))
    (P : TypeTotals N.α → Buckets N.α → Prop)
    (income : P ⟨N.zero, N.abs a, N.zero, N.zero⟩ ⟨N.abs a, N.zero, N.zero, N.zero, N.zero, N.zero⟩)
    (investment : P ⟨N.zero, N.zero, N.abs a, N.zero⟩ ⟨N.zero, N.abs a, N.zero, N.zero, N.zero, N.zero⟩)
    (transfer : P ⟨N.zero, N.zero, N.zero, N.abs a⟩
      (if N.gt a N.zero then ⟨N.zero, N.zero, a, N.zero, N.zero, N.zero⟩
       else ⟨N.zero, N.zero, N.zero, N.abs a, N.zero, N.zero⟩))
    (other : P (if N.ge a N.zero then ⟨a, N.zero, N.zero, N.zero⟩ else ⟨N.zero, N.zero, N.zero, N.zero⟩)
      (if N.gt a N.zero then ⟨N.zero, N.zero, N.zero, N.zero, a, N.zero⟩
       else ⟨N.zero, N.zero, N.zero, N.zero, N.zero, N.abs a⟩)) :
    P (type_contrib N lower a tags) (ClassPy.categorize_amount N lower a tags) := by
  simp only [type_contrib, ClassPy.categorize_amount, ClassPy.get_tags_lower, ClassPy.INCOME_TAG, ClassPy.INVESTMENT_TAG,
    ClassPy.TRANSFER_TAG]
  generalize ((orEmpty tags).map fun t => lower t) = tl
  by_cases h1 : tl.contains "income" = true
  · rw [if_pos h1, if_pos h1]; exact income
  rw [if_neg h1, if_neg h1]
  by_cases h2 : tl.contains "investment" = true
  · rw [if_pos h2, if_pos h2]; exact investment
  rw [if_neg h2, if_neg h2]
  by_cases h3 : tl.contains "transfer" = true
  · rw [if_pos h3, if_pos h3]; exact transfer
  · rw [if_neg h3, if_neg h3]; exact other

/-- Σ over the categories of one figure of their `typeTotals` -/
def ttSum (f : TypeTotals Int → Int) (m : List (String × TypeTotals Int)) : Int := sumBy (fun kv => f kv.2) m

theorem type_totals_regroup (lower : String → String) {f : TypeTotals Int → Int} (hf0 : f (zeroTT intNum) = 0)
    (hadd : ∀ a b, f (addTT intNum a b) = f a + f b) {g : T → Int}
    (hg : ∀ t, f (type_contrib intNum lower t.amount t.tags) = g t) (l : List T) :
    ttSum f (typeTotalsByCat intNum lower l) = sumBy g l :=
  sumBy_accumFrom f g (·.category) (zeroTT intNum)
    (fun t acc => addTT intNum acc (type_contrib intNum lower t.amount t.tags))
    (fun t => by rw [hadd, hf0, Int.zero_add, hg]) (fun t v => by rw [hadd, hg]) l

end TallyVerif.ReportTypes
