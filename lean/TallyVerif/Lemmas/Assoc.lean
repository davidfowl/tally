import TallyVerif.Model.Totals
/-!
Generic facts about `upsert` folds (Python `defaultdict` accumulation).

Two views of a dictionary accumulated from a list: the entry of one key (`lookup_accumFrom`: the fold over the
items with that key), and a sum over all entries (`foldl_op_accumFrom`: if every item raises the measure `μ` of
its entry by `w`, the sum goes on over the items' `w`, however the keys group them).  The sums are stated for
any associative-commutative `op`, so that `Int` totals and `Nat` counts are both instances.
-/
namespace TallyVerif.Totals

variable {κ β τ : Type} [BEq κ]

theorem lookup_upsert [LawfulBEq κ] (k k₂ : κ) (d : β) (f : β → β) (m : List (κ × β)) :
    (upsert k d f m).lookup k₂ = if k₂ == k then some (f ((m.lookup k).getD d)) else m.lookup k₂ := by
  fun_induction upsert k d f m with
  | case1 => cases h : k₂ == k <;> simp [List.lookup_cons, h]   -- empty dictionary
  | case2 k' v rest h =>   -- `k` is the first key
    cases eq_of_beq h
    cases h2 : k₂ == k <;> simp [List.lookup_cons, h2]
  | case3 k' v rest h ih =>   -- `k` is further down, if anywhere
    have h' : (k == k') = false := by simpa using fun e : k = k' => h (by simp [e])
    simp only [List.lookup_cons, ih, h']
    cases h2 : k₂ == k'
    · rfl
    · cases eq_of_beq h2; simp [h]

/-- accumulate a list into a dictionary: `for t in l: d[key t] = g t d[key t]` -/
def accumFrom (key : τ → κ) (d : β) (g : τ → β → β) (m : List (κ × β)) (l : List τ) : List (κ × β) :=
  l.foldl (fun m t => upsert (key t) d (g t) m) m

theorem accumFrom_append (key : τ → κ) (d : β) (g : τ → β → β) (m : List (κ × β)) (l₁ l₂ : List τ) :
    accumFrom key d g m (l₁ ++ l₂) = accumFrom key d g (accumFrom key d g m l₁) l₂ :=
  List.foldl_append

theorem lookup_accumFrom [LawfulBEq κ] (key : τ → κ) (d : β) (g : τ → β → β) (k : κ) (l : List τ) (m : List (κ × β)) :
    (accumFrom key d g m l).lookup k =
      let f := l.filter (fun t => key t == k)
      match m.lookup k with
      | some v => some (f.foldl (fun b t => g t b) v)
      | none => if f.isEmpty then none else some (f.foldl (fun b t => g t b) d) := by
  induction l generalizing m with
  | nil => cases h : m.lookup k <;> simp [accumFrom, h]
  | cons t l ih =>
    simp only [accumFrom, List.foldl_cons] at ih ⊢
    rw [ih, lookup_upsert]
    by_cases hk : key t = k
    · subst hk
      cases h : m.lookup (key t) <;> simp
    · rw [if_neg (by simpa using fun e => hk e.symm), List.filter_cons_of_neg (by simpa using hk)]

theorem lookup_accum [LawfulBEq κ] (key : τ → κ) (d : β) (g : τ → β → β) (k : κ) (l : List τ) :
    (accumFrom key d g [] l).lookup k =
      if (l.filter (fun t => key t == k)).isEmpty then none
      else some ((l.filter (fun t => key t == k)).foldl (fun b t => g t b) d) :=
  lookup_accumFrom key d g k l []

theorem lookup_accum_perm [LawfulBEq κ] {key : τ → κ} {d : β} {g : τ → β → β}
    (comm : ∀ x y z, g y (g x z) = g x (g y z)) (k : κ) {l l' : List τ} (p : l.Perm l') :
    (accumFrom key d g [] l).lookup k = (accumFrom key d g [] l').lookup k := by
  rw [lookup_accum, lookup_accum]
  have pf := p.filter (fun t => key t == k)
  rw [pf.isEmpty_eq, pf.foldl_eq' (fun x _ y _ z => comm x y z) d]

section
variable {A : Type} (op : A → A → A) [Std.Associative op] [Std.Commutative op]

theorem foldl_op_shift (ν : τ → A) (a : A) (l : List τ) (z : A) :
    l.foldl (fun acc x => op acc (ν x)) (op z a) = op (l.foldl (fun acc x => op acc (ν x)) z) a := by
  induction l generalizing z with
  | nil => rfl
  | cons x l ih =>
    rw [List.foldl_cons, List.foldl_cons, ← ih, Std.Associative.assoc (op := op), Std.Commutative.comm (op := op) a,
      ← Std.Associative.assoc (op := op)]

theorem foldl_op_upsert (μ : β → A) (a : A) (k : κ) (d : β) (f : β → β) (hd : μ (f d) = a)
    (hf : ∀ v, μ (f v) = op (μ v) a) (m : List (κ × β)) (z : A) :
    (upsert k d f m).foldl (fun acc kv => op acc (μ kv.2)) z = op (m.foldl (fun acc kv => op acc (μ kv.2)) z) a := by
  fun_induction upsert k d f m generalizing z with
  | case1 => simp only [List.foldl_cons, List.foldl_nil, hd]
  | case2 k' v rest h =>   -- `k` is the first key: its summand grows by `a`, which moves to the end of the sum
    rw [List.foldl_cons, List.foldl_cons, hf, ← Std.Associative.assoc (op := op), foldl_op_shift]
  | case3 k' v rest h ih => rw [List.foldl_cons, List.foldl_cons, ih]

theorem foldl_op_accumFrom (μ : β → A) (w : τ → A) (key : τ → κ) (d : β) (g : τ → β → β)
    (hd : ∀ t, μ (g t d) = w t) (hg : ∀ t v, μ (g t v) = op (μ v) (w t)) (l : List τ) (m : List (κ × β)) (z : A) :
    (accumFrom key d g m l).foldl (fun acc kv => op acc (μ kv.2)) z =
      l.foldl (fun acc t => op acc (w t)) (m.foldl (fun acc kv => op acc (μ kv.2)) z) := by
  induction l generalizing m with
  | nil => rfl
  | cons t l ih =>
    rw [List.foldl_cons, ← foldl_op_upsert op μ (w t) (key t) d (g t) (hd t) (hg t)]
    exact ih _
end

end TallyVerif.Totals
