/-
Lemmas for C18, inspect.  The suggestion is the rendering of an arrangement in its plain spelling (`suggest_eq_render`), which is
well-formed and reads back as the detected spec when the detected columns are distinct.  Header detection is a first fit, kept
slot by slot (`Slot`): the `if/elif` chain is one `slotStep` per role with a flag saying that an earlier role took the header,
so one lemma about one slot (`Slot.step`) carries the invariant through the loop; distinct columns are a corollary.
-/
import TallyVerif.Lemmas.Fmt

namespace TallyVerif.Fmt
open TallyVerif.Gen Spec

/-- the columns of a detected spec are pairwise distinct -/
def Distinct (sp : Impl.DetectSpec) : Prop :=
  sp.dateColumn ≠ sp.descriptionColumn ∧ sp.dateColumn ≠ sp.amountColumn ∧ sp.descriptionColumn ≠ sp.amountColumn ∧
  (∀ x, sp.locationColumn = some x → x ≠ sp.dateColumn ∧ x ≠ sp.descriptionColumn ∧ x ≠ sp.amountColumn)

theorem rangeMap_eq {α : Type} (f : Nat → α) (s n : Nat) : Impl.rangeMap f s n = (List.range' s n).map f := by
  fun_induction Impl.rangeMap f s n with
  | case1 => rfl
  | case2 s n ih => simp [List.range'_succ, ih]

theorem rangeMap_map {α β : Type} (f : Nat → α) (g : α → β) (s n : Nat) :
    (Impl.rangeMap f s n).map g = Impl.rangeMap (fun i => g (f i)) s n := by
  simp [rangeMap_eq]

theorem mem_rangeMap {α : Type} {f : Nat → α} {x : α} {s n : Nat} :
    x ∈ Impl.rangeMap f s n ↔ ∃ i, s ≤ i ∧ i < s + n ∧ f i = x := by
  simp [rangeMap_eq, List.mem_range'_1, and_assoc]

theorem findIdx_rangeMap {α : Type} (f : Nat → α) (P : α → Bool) (d n : Nat)
    (h : ∀ i, P (f i) = true ↔ i = d) (hd : d < n) :
    (Impl.rangeMap f 0 n).findIdx? P = some d ∧ (Impl.rangeMap f 0 n).find? P = some (f d) := by
  rw [rangeMap_eq, List.findIdx?_map, List.find?_map]
  constructor
  · rw [List.findIdx?_eq_some_iff_getElem]
    refine ⟨by simpa using hd, by simp [h], fun j hj => ?_⟩
    simp only [List.getElem_range', Function.comp, h]
    omega
  · have : (List.range' 0 n).find? (P ∘ f) = some d := by
      rw [List.find?_range'_eq_some]
      refine ⟨(h d).mpr rfl, List.mem_range'_1.mpr ⟨Nat.zero_le d, by omega⟩, fun j _ hjd => ?_⟩
      simp only [Function.comp, Bool.not_eq_true', ← Bool.not_eq_true, h]
      omega
    rw [this]; rfl

theorem joinWith_comma_space (ts : List Str) (t : Str) :
    joinWith [',', ' '] (t :: ts) = joinComma (t :: ts.map (' ' :: ·)) := by
  induction ts generalizing t with
  | nil => rfl
  | cons u us ih =>
    simp only [joinWith, List.map_cons, joinComma]
    rw [ih u]
    cases us <;> simp [joinComma]

/-- the column that `Impl.suggestTok sp i` writes the token of: the same `if` chain -/
def colAt (sp : Impl.DetectSpec) (i : Nat) : Col :=
  if i = sp.dateColumn then .date (some sp.dateFormat)
  else if i = sp.descriptionColumn then .description
  else if i = sp.amountColumn then .amount .asIs
  else if sp.locationColumn = some i then .location
  else .skip

/-- the plain spelling of a column: its canonical name, nothing ignored, nothing after the brace -/
def plain (pre : Str) (c : Col) : Col × Sp := (c, ⟨pre, none, canonName c, none, []⟩)

/-- the spelled arrangement behind `suggest sp`: no blank before the first token, one blank before the others -/
def scsOf (sp : Impl.DetectSpec) : List (Col × Sp) :=
  plain [] (colAt sp 0) :: Impl.rangeMap (fun i => plain [' '] (colAt sp i)) 1 (Impl.maxCol sp)

theorem renderCol_plain (sp : Impl.DetectSpec) (pre : Str) (i : Nat) :
    renderCol (plain pre (colAt sp i)) = pre ++ Impl.suggestTok sp i := by
  -- both sides are the same `if` chain: push the functions to its leaves
  simp only [colAt, Impl.suggestTok, apply_ite (fun c => renderCol (plain pre c)), apply_ite (pre ++ ·)]
  simp [plain, renderCol, tokText, Col.signOf, Col.specOf, signChars, specChars, canonName, Impl.tokDate,
    Impl.tokDescription, Impl.tokAmount, Impl.tokLocation, Impl.tokSkip, sDate, sUnderscore]

theorem suggest_eq_render (sp : Impl.DetectSpec) : Impl.suggest sp = render (scsOf sp) := by
  unfold Impl.suggest render scsOf
  simp only [Impl.rangeMap, Nat.zero_add, List.map_cons, rangeMap_map, renderCol_plain, List.nil_append]
  rw [joinWith_comma_space, rangeMap_map]
  rfl

theorem cols_scsOf (sp : Impl.DetectSpec) :
    (scsOf sp).map Prod.fst = Impl.rangeMap (colAt sp) 0 (Impl.maxCol sp + 1) := by
  unfold scsOf
  simp only [List.map_cons, rangeMap_map, Impl.rangeMap, Nat.zero_add]
  rfl

theorem okName_ascii (e : Ext) {w : Str} (h1 : w.all isAscii = true) (h2 : w.all asciiWord = true)
    (h3 : w.map asciiLower = w) (h4 : w ≠ []) : okName e w w = true := by
  have hl : e.lower w = w := by unfold Ext.lower; rw [if_pos h1]; exact h3
  have hw : w.all e.isWord = true := by
    apply List.all_eq_true.mpr
    intro c hc
    rw [isWord_ascii e (List.all_eq_true.mp h1 c hc)]
    exact List.all_eq_true.mp h2 c hc
  simp [okName, hl, hw, h4]

theorem SpOK_plain (e : Ext) (pre : Str) {c : Col} (hpre : pre.all e.isSpace = true)
    (hfmt : okSpec (c.specOf (plain pre c).2) = true) (hc : c.customName = none) : SpOK e (plain pre c) = true := by
  -- `SpOK` part by part: `hpre`, nothing after the brace, no sign, `hfmt`, and the canonical name as a spelling of itself
  simp only [SpOK, Bool.and_eq_true]
  refine ⟨⟨⟨⟨hpre, rfl⟩, rfl⟩, hfmt⟩, ?_⟩
  cases c with
  | custom n => cases hc
  | _ => simp only [plain, canonName]; exact okName_ascii e (by decide) (by decide) (by decide) (by decide)

theorem customName_colAt (sp : Impl.DetectSpec) (i : Nat) : (colAt sp i).customName = none := by
  fun_cases colAt sp i <;> rfl

theorem SpOK_scsOf (e : Ext) (sp : Impl.DetectSpec) (hfmt : okSpec (some sp.dateFormat) = true) :
    ∀ p ∈ scsOf sp, SpOK e p = true := by
  have hspec : ∀ i (x : Sp), x.spec = none → okSpec ((colAt sp i).specOf x) = true := by
    intro i x hx
    fun_cases colAt sp i
    case case1 => exact hfmt                               -- the date column carries the detected format,
    all_goals show okSpec x.spec = true; rw [hx]; rfl      -- every other column the spelling's `:spec`
  intro p hp
  unfold scsOf at hp
  rcases List.mem_cons.mp hp with rfl | hp
  · exact SpOK_plain e [] (by simp) (hspec _ _ rfl) (customName_colAt sp 0)
  · obtain ⟨i, _, _, rfl⟩ := mem_rangeMap.mp hp
    exact SpOK_plain e [' '] (by simp [isSpace_ascii e (c := ' ') (by decide)]; decide) (hspec _ _ rfl) (customName_colAt sp i)

theorem isDate_colAt (sp : Impl.DetectSpec) (i : Nat) : (colAt sp i).isDate = true ↔ i = sp.dateColumn := by
  fun_cases colAt sp i <;> simpa [Col.isDate]

theorem isDescription_colAt (sp : Impl.DetectSpec) (hd : Distinct sp) (i : Nat) :
    (colAt sp i).isDescription = true ↔ i = sp.descriptionColumn := by
  have := hd.1
  fun_cases colAt sp i <;> simp [Col.isDescription] <;> omega

theorem isAmount_colAt (sp : Impl.DetectSpec) (hd : Distinct sp) (i : Nat) :
    (colAt sp i).isAmount = true ↔ i = sp.amountColumn := by
  obtain ⟨_, _, _, _⟩ := hd
  fun_cases colAt sp i <;> simp [Col.isAmount] <;> omega

theorem isLocation_colAt (sp : Impl.DetectSpec) (hd : Distinct sp) (i : Nat) :
    (colAt sp i).isLocation = true ↔ sp.locationColumn = some i := by
  fun_cases colAt sp i <;> simp [Col.isLocation, *]
  all_goals intro h; have := hd.2.2.2 _ h; omega

theorem colAt_inj (sp : Impl.DetectSpec) (hd : Distinct sp) (i j : Nat) (k : Str)
    (hi : (colAt sp i).fieldName = some k) (hj : (colAt sp j).fieldName = some k) : i = j := by
  rcases fieldName_some hi with ⟨rfl, h⟩ | ⟨rfl, h⟩ | ⟨rfl, h⟩ | ⟨rfl, h⟩
  · rw [(isDate_colAt sp i).mp h, (isDate_colAt sp j).mp ((isDate_iff _).mp hj)]
  · rw [(isDescription_colAt sp hd i).mp h, (isDescription_colAt sp hd j).mp ((isDescription_iff _).mp hj)]
  · rw [(isAmount_colAt sp hd i).mp h, (isAmount_colAt sp hd j).mp ((isAmount_iff _).mp hj)]
  · have a := (isLocation_colAt sp hd i).mp h
    have b := (isLocation_colAt sp hd j).mp ((isLocation_iff _).mp hj)
    rw [a] at b; exact Option.some.inj b

theorem nodup_fieldNames_rangeMap {F : Nat → Col}
    (hinj : ∀ i j k, (F i).fieldName = some k → (F j).fieldName = some k → i = j) {s n : Nat} :
    (fieldNames (Impl.rangeMap F s n)).Nodup := by
  rw [rangeMap_eq, fieldNames, List.filterMap_map]
  exact List.Pairwise.filterMap (R := (· ≠ ·)) (S := (· ≠ ·)) _
    (fun i j hij k hi k' hj hk => hij (hinj i j k hi (hk ▸ hj))) List.nodup_range'

theorem maxCol_bounds (sp : Impl.DetectSpec) :
    sp.dateColumn ≤ Impl.maxCol sp ∧ sp.descriptionColumn ≤ Impl.maxCol sp ∧ sp.amountColumn ≤ Impl.maxCol sp ∧
    (∀ x, sp.locationColumn = some x → x ≤ Impl.maxCol sp) := by
  have h1 := Nat.le_trans (Nat.le_max_left sp.dateColumn sp.descriptionColumn) (Nat.le_max_left _ sp.amountColumn)
  have h2 := Nat.le_trans (Nat.le_max_right sp.dateColumn sp.descriptionColumn) (Nat.le_max_left _ sp.amountColumn)
  have h3 := Nat.le_max_right (max sp.dateColumn sp.descriptionColumn) sp.amountColumn
  unfold Impl.maxCol
  cases sp.locationColumn with
  | none => exact ⟨h1, h2, h3, nofun⟩
  | some l =>
    have hl := Nat.le_max_left (max (max sp.dateColumn sp.descriptionColumn) sp.amountColumn) l
    exact ⟨Nat.le_trans h1 hl, Nat.le_trans h2 hl, Nat.le_trans h3 hl, fun x hx => Option.some.inj hx ▸ Nat.le_max_right _ _⟩

theorem wellFormed_suggest (e : Ext) (sp : Impl.DetectSpec) (hd : Distinct sp) :
    WellFormed e ((scsOf sp).map Prod.fst) none := by
  rw [cols_scsOf]
  obtain ⟨b1, b2, b3, _⟩ := maxCol_bounds sp
  have hcust : customNames (Impl.rangeMap (colAt sp) 0 (Impl.maxCol sp + 1)) = [] := by
    unfold customNames
    apply List.filterMap_eq_nil_iff.mpr
    intro c hc
    obtain ⟨i, _, _, rfl⟩ := mem_rangeMap.mp hc
    exact customName_colAt sp i
  have hany : ∀ (P : Col → Bool) d, d ≤ Impl.maxCol sp → P (colAt sp d) = true →
      (Impl.rangeMap (colAt sp) 0 (Impl.maxCol sp + 1)).any P = true := fun P d hd hP =>
    List.any_eq_true.mpr ⟨_, mem_rangeMap.mpr ⟨d, Nat.zero_le d, by omega, rfl⟩, hP⟩
  refine ⟨nodup_fieldNames_rangeMap (colAt_inj sp hd), ?_, ?_, hany _ _ b1 ((isDate_colAt sp _).mpr rfl),
    hany _ _ b3 ((isAmount_colAt sp hd _).mpr rfl), Or.inl (hany _ _ b2 ((isDescription_colAt sp hd _).mpr rfl)), ?_⟩
  · rw [hcust]; simp
  · rw [hcust]; intro n hn; cases hn
  · intro r hr; simp [refsOf, Impl.tmplAbsent] at hr

theorem specOf_suggest (sp : Impl.DetectSpec) (hd : Distinct sp) :
    let spec := specOf ((scsOf sp).map Prod.fst) none
    spec.dateColumn = sp.dateColumn ∧ spec.dateFormat = sp.dateFormat ∧
    spec.descriptionColumn = some sp.descriptionColumn ∧ spec.amountColumn = sp.amountColumn ∧
    spec.locationColumn = sp.locationColumn := by
  rw [cols_scsOf]
  obtain ⟨b1, b2, b3, b4⟩ := maxCol_bounds sp
  have fD := findIdx_rangeMap (colAt sp) Col.isDate sp.dateColumn (Impl.maxCol sp + 1) (isDate_colAt sp) (by omega)
  have fS := findIdx_rangeMap (colAt sp) Col.isDescription sp.descriptionColumn (Impl.maxCol sp + 1)
    (isDescription_colAt sp hd) (by omega)
  have fA := findIdx_rangeMap (colAt sp) Col.isAmount sp.amountColumn (Impl.maxCol sp + 1) (isAmount_colAt sp hd) (by omega)
  have hcd : colAt sp sp.dateColumn = .date (some sp.dateFormat) := by simp [colAt]
  refine ⟨by simp [specOf, fD.1], by simp [specOf, dateFmtOf, fD.2, hcd], by simp [specOf, fS.1], by simp [specOf, fA.1], ?_⟩
  show List.findIdx? Col.isLocation _ = sp.locationColumn
  cases hl : sp.locationColumn with
  | none =>
    rw [rangeMap_eq, List.findIdx?_map]
    refine List.findIdx?_eq_none_iff.mpr fun i _ => ?_
    rw [Function.comp, ← Bool.not_eq_true, isLocation_colAt sp hd i, hl]
    nofun
  | some l =>
    exact (findIdx_rangeMap (colAt sp) Col.isLocation l _
      (fun i => by rw [isLocation_colAt sp hd i, hl, Option.some.injEq, eq_comm]) (by have := b4 l hl; omega)).1

/-! ### auto-detection is a FIRST FIT, role by role

The code walks the headers and, for each, tries the roles in the order date, description, amount, location (`if/elif`, a role only
while its slot is empty).  Read role by role this is: the date column is the first header carrying a date keyword; the description
column is the first header carrying a description keyword that is not the date column; the amount column the first header carrying an
amount keyword that is neither; the location column likewise.  In particular a header whose wording mentions two kinds of column
("Payment Date", "Debit Description", "City Name") serves ONE role: the first of them still open when the header is reached. -/

/-- header `j` of the row `hs` carries a keyword of the list `tbl` -/
def HeaderMatches (e : Ext) (hs : List Str) (tbl : List Str) (j : Nat) : Prop :=
  ∃ h, hs[j]? = some h ∧ Impl.matchHeader e h tbl = true

theorem headerMatches_lt {e : Ext} {hs : List Str} {tbl : List Str} (j : Nat) (h : HeaderMatches e hs tbl j) :
    j < hs.length := by
  obtain ⟨x, hx, _⟩ := h
  exact (List.getElem?_eq_some_iff.mp hx).1

theorem headerMatches_snoc (e : Ext) (pre : List Str) (h : Str) {tbl : List Str} (j : Nat) :
    HeaderMatches e (pre ++ [h]) tbl j ↔ HeaderMatches e pre tbl j ∨ (j = pre.length ∧ Impl.matchHeader e h tbl = true) := by
  unfold HeaderMatches
  rw [List.getElem?_append]
  by_cases hj : j < pre.length
  · rw [if_pos hj]
    exact ⟨Or.inl, fun h => h.resolve_right fun ⟨hjl, _⟩ => by omega⟩
  · rw [if_neg hj, List.getElem?_singleton, List.getElem?_eq_none (by omega)]
    by_cases hjl : j = pre.length
    · simp [hjl]
    · rw [if_neg (by omega)]; simp [hjl]

/-- The first-fit reading of one role's slot `o`, where `M j` says that header `j` carries a keyword of the role and `os` are the
slots of the roles tried before it: a filled slot holds the first such header that no earlier role has taken, and while the
slot is empty every such header has been taken by an earlier role. -/
structure Slot (M : Nat → Prop) (os : List (Option Nat)) (o : Option Nat) : Prop where
  filled : ∀ x, o = some x → M x ∧ some x ∉ os ∧ ∀ j, j < x → M j → some j ∈ os
  empty : o = none → ∀ j, M j → some j ∈ os

/-- what the `if/elif` chain does to one slot at header `n`: `b` says that the header carries a keyword of the role, `taken` that
an earlier branch of the chain fired -/
def slotStep (n : Nat) (o : Option Nat) (b taken : Bool) : Option Nat :=
  if !taken && o.isNone && b then some n else o

theorem Slot.step {M M' : Nat → Prop} {os os' : List (Option Nat)} {o : Option Nat} {n : Nat} {b taken : Bool}
    (h : Slot M os o) (hM : ∀ j, M' j ↔ M j ∨ (j = n ∧ b = true)) (lt : ∀ j, M j → j < n)
    (hos : ∀ j, some j ∈ os' ↔ some j ∈ os ∨ (j = n ∧ taken = true)) (hn : some n ∉ os) :
    Slot M' os' (slotStep n o b taken) := by
  unfold slotStep
  by_cases hfill : (!taken && o.isNone && b) = true
  · -- this header fills the slot: no earlier role took it, the slot was empty, the header carries a keyword
    rw [if_pos hfill]
    simp only [Bool.and_eq_true, Bool.not_eq_true', Option.isNone_iff_eq_none] at hfill
    obtain ⟨⟨rfl, rfl⟩, rfl⟩ := hfill
    refine ⟨?_, fun h => nomatch h⟩
    rintro x ⟨⟩
    refine ⟨(hM n).mpr (Or.inr ⟨rfl, rfl⟩), fun hx => ?_, fun j hj hMj => ?_⟩
    · rcases (hos n).mp hx with hx | ⟨_, hx⟩
      · exact hn hx
      · cases hx
    · rcases (hM j).mp hMj with hMj | ⟨rfl, _⟩
      · exact (hos j).mpr (Or.inl (h.empty rfl j hMj))
      · omega
  · -- the slot stays as it was
    rw [if_neg hfill]
    constructor
    · intro x hx
      obtain ⟨hMx, hxos, hfirst⟩ := h.filled x hx
      have hxn := lt x hMx
      refine ⟨(hM x).mpr (Or.inl hMx), fun hx' => ?_, fun j hj hMj => ?_⟩
      · rcases (hos x).mp hx' with hx' | ⟨rfl, _⟩
        · exact hxos hx'
        · omega
      · rcases (hM j).mp hMj with hMj | ⟨rfl, _⟩
        · exact (hos j).mpr (Or.inl (hfirst j hj hMj))
        · omega
    · rintro rfl j hMj
      rcases (hM j).mp hMj with hMj | ⟨rfl, rfl⟩
      · exact (hos j).mpr (Or.inl (h.empty rfl j hMj))
      · cases taken
        · simp at hfill
        · exact (hos j).mpr (Or.inr ⟨rfl, rfl⟩)

/-- the slots tried so far, after the step: the next role sees `n` as taken when it was before or this slot took it -/
theorem taken_step {os os' : List (Option Nat)} (o : Option Nat) (n : Nat) (b : Bool) {taken : Bool}
    (hos : ∀ j, some j ∈ os' ↔ some j ∈ os ∨ (j = n ∧ taken = true)) :
    ∀ j, some j ∈ slotStep n o b taken :: os' ↔ some j ∈ o :: os ∨ (j = n ∧ (taken || o.isNone && b) = true) := by
  intro j
  rw [List.mem_cons, List.mem_cons, hos]
  unfold slotStep
  cases taken <;> cases o <;> cases b <;> simp [or_comm, or_left_comm]

theorem Slot.not_taken {M : Nat → Prop} {os : List (Option Nat)} {o : Option Nat} {n : Nat} (h : Slot M os o)
    (lt : ∀ j, M j → j < n) (hn : some n ∉ os) : some n ∉ o :: os := by
  rintro (_ | ⟨_, hmem⟩)
  · exact Nat.lt_irrefl n (lt n (h.filled n rfl).1)
  · exact hn hmem

/-- The `if/elif` chain as four `slotStep`s; `tk` says that one of the first `k` roles took the header.  `t1` is spelt with `false ||`
so that every `tk` is literally what `taken_step` returns. -/
theorem detectStep_eq (e : Ext) (idx : Nat) (d : Impl.Detected) (h : Str) :
    Impl.detectStep e idx d h =
      let bd := Impl.matchHeader e h FmtTables.DATE_PATTERNS
      let bs := Impl.matchHeader e h FmtTables.DESC_PATTERNS
      let ba := Impl.matchHeader e h FmtTables.AMOUNT_PATTERNS
      let t1 := false || d.date.isNone && bd
      let t2 := t1 || d.desc.isNone && bs
      let t3 := t2 || d.amount.isNone && ba
      ⟨slotStep idx d.date bd false, slotStep idx d.desc bs t1, slotStep idx d.amount ba t2,
       slotStep idx d.location (Impl.matchHeader e h FmtTables.LOCATION_PATTERNS) t3⟩ := by
  fun_cases Impl.detectStep e idx d h <;> simp [slotStep, *]

/-- the first-fit reading of the detection state, for the headers read so far: the roles are tried in the order date,
description, amount, location -/
def FirstFit (e : Ext) (hs : List Str) (d : Impl.Detected) : Prop :=
  Slot (HeaderMatches e hs FmtTables.DATE_PATTERNS) [] d.date ∧
  Slot (HeaderMatches e hs FmtTables.DESC_PATTERNS) [d.date] d.desc ∧
  Slot (HeaderMatches e hs FmtTables.AMOUNT_PATTERNS) [d.desc, d.date] d.amount ∧
  Slot (HeaderMatches e hs FmtTables.LOCATION_PATTERNS) [d.amount, d.desc, d.date] d.location

theorem firstFit_step (e : Ext) (pre : List Str) (h : Str) (d : Impl.Detected) (hff : FirstFit e pre d) :
    FirstFit e (pre ++ [h]) (Impl.detectStep e pre.length d h) := by
  obtain ⟨h1, h2, h3, h4⟩ := hff
  -- the two side conditions of `Slot.step` for role `k`, about the slots of the roles tried before it: `tk` is what they hold
  -- after this header against before (`taken_step`, one role at a time), `nk` that none of them held this header already
  have t1 : ∀ j, some j ∈ ([] : List (Option Nat)) ↔ some j ∈ ([] : List (Option Nat)) ∨ (j = pre.length ∧ false = true) := by
    simp
  have n1 : some pre.length ∉ ([] : List (Option Nat)) := by simp
  have t2 := taken_step d.date pre.length (Impl.matchHeader e h FmtTables.DATE_PATTERNS) t1
  have n2 := h1.not_taken headerMatches_lt n1
  have t3 := taken_step d.desc pre.length (Impl.matchHeader e h FmtTables.DESC_PATTERNS) t2
  have n3 := h2.not_taken headerMatches_lt n2
  have t4 := taken_step d.amount pre.length (Impl.matchHeader e h FmtTables.AMOUNT_PATTERNS) t3
  have n4 := h3.not_taken headerMatches_lt n3
  rw [detectStep_eq]
  exact ⟨h1.step (headerMatches_snoc e pre h) headerMatches_lt t1 n1,
    h2.step (headerMatches_snoc e pre h) headerMatches_lt t2 n2,
    h3.step (headerMatches_snoc e pre h) headerMatches_lt t3 n3,
    h4.step (headerMatches_snoc e pre h) headerMatches_lt t4 n4⟩

theorem firstFit_loop (e : Ext) (hs pre : List Str) {d : Impl.Detected} (hff : FirstFit e pre d) :
    FirstFit e (pre ++ hs) (Impl.detectLoop e pre.length d hs) := by
  induction hs generalizing pre d with
  | nil => simpa [Impl.detectLoop] using hff
  | cons h hs ih => simpa [Impl.detectLoop] using ih (pre ++ [h]) (firstFit_step e pre h d hff)

theorem firstFit_detectLoop (e : Ext) (hs : List Str) :
    FirstFit e hs (Impl.detectLoop e 0 ⟨none, none, none, none⟩ hs) := by
  have hno : ∀ tbl os, Slot (HeaderMatches e [] tbl) os none :=
    fun tbl os => ⟨fun _ h => (nomatch h), fun _ j hj => by obtain ⟨x, hx, _⟩ := hj; simp at hx⟩
  simpa using firstFit_loop e hs [] ⟨hno _ _, hno _ _, hno _ _, hno _ _⟩

theorem detect_ok {e : Ext} {hs : List Str} {sp : Impl.DetectSpec} (h : Impl.detect e hs = .ok sp) :
    Impl.detectLoop e 0 ⟨none, none, none, none⟩ hs =
      ⟨some sp.dateColumn, some sp.descriptionColumn, some sp.amountColumn, sp.locationColumn⟩ ∧
    sp.dateFormat = FmtTables.DETECT_DATE_FORMAT := by
  revert h
  fun_cases Impl.detect e hs <;> intro h <;> cases h
  exact ⟨‹_›, rfl⟩

theorem detect_firstFit {e : Ext} {hs : List Str} {sp : Impl.DetectSpec} (h : Impl.detect e hs = .ok sp) :
    FirstFit e hs ⟨some sp.dateColumn, some sp.descriptionColumn, some sp.amountColumn, sp.locationColumn⟩ :=
  (detect_ok h).1 ▸ firstFit_detectLoop e hs

/-- one role per header: no slot holds a header that an earlier role took -/
theorem detect_distinct {e : Ext} {hs : List Str} {sp : Impl.DetectSpec} (h : Impl.detect e hs = .ok sp) : Distinct sp := by
  obtain ⟨_, h2, h3, h4⟩ := detect_firstFit h
  obtain ⟨-, a2, -⟩ := h2.filled _ rfl
  obtain ⟨-, a3, -⟩ := h3.filled _ rfl
  simp only [List.mem_cons, List.not_mem_nil, or_false, Option.some.injEq, not_or] at a2 a3
  refine ⟨Ne.symm a2, Ne.symm a3.2, Ne.symm a3.1, fun x hx => ?_⟩
  obtain ⟨-, a4, -⟩ := h4.filled x hx
  simp only [List.mem_cons, List.not_mem_nil, or_false, Option.some.injEq, not_or] at a4
  exact ⟨a4.2.2, a4.2.1, a4.1⟩

end TallyVerif.Fmt
