import TallyVerif.Model.Expr
/-! The interpreter read as equations, in three parts.  First a computation of `M` applied to a scope, and the monad laws.
`Equations`: the equations of `eval`, one per constructor of `Expr` and per case of each list evaluator, every one by `rfl`
(the three call constructors apart: their bodies are long, and `NameCase`, the one file that needs them, unfolds `eval`).
`BoolOp`: what `and` / `or` do, said without `evalBool`. -/
namespace TallyVerif.Expr
open TallyVerif.Py

@[simp] theorem mpure_apply {α : Type} (a : α) (s : Scope) : (M.pure a : M α) s = (.ok a, s) := rfl
@[simp] theorem pure_apply {α : Type} (a : α) (s : Scope) : (pure a : M α) s = (.ok a, s) := rfl
@[simp] theorem raise_apply {α : Type} (e : Err) (s : Scope) : (raise e : M α) s = (.error e, s) := rfl
@[simp] theorem liftE_apply {α : Type} (x : Except Err α) (s : Scope) : (liftE x : M α) s = (x, s) := rfl
theorem bind_apply {α β : Type} (x : M α) (f : α → M β) (s : Scope) :
    (x >>= f) s = (match x s with
      | (.ok a, s') => f a s'
      | (.error e, s') => (.error e, s')) := rfl

instance : LawfulMonad M := LawfulMonad.mk'
  (id_map := fun x => funext fun s => by
    show (x >>= pure) s = x s
    rw [bind_apply]; cases x s with | mk r s' => cases r <;> rfl)
  (pure_bind := fun _ _ => rfl)
  (bind_assoc := fun x f g => funext fun s => by
    simp only [bind_apply]
    cases x s with | mk r s' => cases r <;> rfl)

theorem ite_bind {α β : Type} (c : Prop) [Decidable c] (x y : M α) (f : α → M β) :
    (if c then x else y) >>= f = if c then x >>= f else y >>= f := by split <;> rfl

theorem bind_ok {α β : Type} {x : M α} {s s' : Scope} {a : α} (h : x s = (.ok a, s')) (f : α → M β) :
    (x >>= f) s = f a s' := by rw [bind_apply, h]

theorem liftE_ok {α : Type} (a : α) : (liftE (.ok a) : M α) = pure a := rfl

section Equations

theorem eval_const (o : Oracles) (ctx : Ctx) (v : Val) : eval o ctx (.const v) = pure v := by rfl
theorem eval_name (o : Oracles) (ctx : Ctx) (id : String) : eval o ctx (.name id) = lookupName ctx id := by rfl
theorem eval_unop (o : Oracles) (ctx : Ctx) (op : UnOp) (e : Expr) :
    eval o ctx (.unop op e) = (do
      let v ← eval o ctx e
      match op with
      | .not => pure (.bool (!truthy v))
      | .neg => liftE (pyNeg v)) := by rfl
theorem eval_boolop (o : Oracles) (ctx : Ctx) (isAnd : Bool) (es : List Expr) :
    eval o ctx (.boolop isAnd es) = (do let b ← evalBool o ctx isAnd es; pure (.bool b)) := by rfl
theorem evalBool_nil (o : Oracles) (ctx : Ctx) (isAnd : Bool) : evalBool o ctx isAnd [] = pure isAnd := by rfl
theorem evalBool_cons (o : Oracles) (ctx : Ctx) (isAnd : Bool) (e : Expr) (es : List Expr) :
    evalBool o ctx isAnd (e :: es) = (do
      let v ← eval o ctx e
      if isAnd then (if truthy v then evalBool o ctx isAnd es else pure false)
      else (if truthy v then pure true else evalBool o ctx isAnd es)) := by rfl
theorem eval_binop (o : Oracles) (ctx : Ctx) (op : BinOp) (l r : Expr) :
    eval o ctx (.binop op l r) = (do
      let a ← eval o ctx l
      let b ← eval o ctx r
      match op with
      | .div => if isZero b then pure (.int 0) else liftE (pyArith .div a b)
      | .mod =>
        if isZero b then pure (.int 0) else
        (match asNumber a, asNumber b with
         | some x, some y =>
           (match x, y with
            | .i _, .i _ => liftE (pyArith .mod a b)
            | _, _ =>
              let bigInt := (match x with | .i n => n.natAbs ≥ 2 ^ 53 | _ => false) || (match y with | .i n => n.natAbs ≥ 2 ^ 53 | _ => false)
              if bigInt then raise (.unmodelled "big int with float") else
              let xb := B (numToFloat x); let yb := B (numToFloat y)
              match o.fmod xb yb with
              | some r => pure (.flt r)
              | none => need "fmod" [toString xb.toNat, toString yb.toNat])
         | _, _ => liftE (pyArith .mod a b))
      | _ => liftE (pyArith op a b)) := by rfl
theorem eval_cmp (o : Oracles) (ctx : Ctx) (l : Expr) (links : List Link) :
    eval o ctx (.cmp l links) = (do
      let left ← eval o ctx l
      let b ← evalLinks o ctx left links
      pure (.bool b)) := by rfl
theorem evalLinks_nil (o : Oracles) (ctx : Ctx) (left : Val) : evalLinks o ctx left [] = pure true := by rfl
theorem evalLinks_cons (o : Oracles) (ctx : Ctx) (left : Val) (op : CmpOp) (e : Expr) (rest : List Link) :
    evalLinks o ctx left (.mk op e :: rest) = (do
      let right0 ← eval o ctx e
      let (l, r) ← liftE (coerceDates o left right0)
      let b ← liftE (cmpLink o op l r)
      if b then evalLinks o ctx r rest else pure false) := by rfl
theorem eval_ifexp (o : Oracles) (ctx : Ctx) (c t e : Expr) :
    eval o ctx (.ifexp c t e) = (do
      let cv ← eval o ctx c
      if truthy cv then eval o ctx t else eval o ctx e) := by rfl
theorem eval_walrus (o : Oracles) (ctx : Ctx) (id : String) (e : Expr) :
    eval o ctx (.walrus id e) = (do
      let v ← eval o ctx e
      setVar (lowerName id) v
      pure v) := by rfl
theorem eval_listcomp (o : Oracles) (ctx : Ctx) (elt : Expr) (gens : List Comp) :
    eval o ctx (.listcomp elt gens) = (do
      let st ← evalGens o ctx gens (fun acc => do
        let v ← eval o ctx elt
        liftE (consume .collect acc v)) (emptyAcc .none)
      match st with
      | .more acc | .done acc => pure (.list acc.vals.reverse)) := by rfl
theorem evalGens_nil (o : Oracles) (ctx : Ctx) (body : Acc → M (Step Acc)) (acc : Acc) :
    evalGens o ctx [] body acc = body acc := by rfl
theorem evalGens_cons (o : Oracles) (ctx : Ctx) (target : Option String) (iter : Expr) (ifs : List Expr)
    (gs : List Comp) (body : Acc → M (Step Acc)) (acc : Acc) :
    evalGens o ctx (.mk target iter ifs :: gs) body acc = (do
      let itv ← eval o ctx iter
      match target with
      | none => exprErr "Only simple loop variables supported"
      | some x => do
        let items ← iterItems itv
        loopItems (lowerName x) (evalConds o ctx ifs) (evalGens o ctx gs body) items acc) := by rfl
theorem evalConds_nil (o : Oracles) (ctx : Ctx) : evalConds o ctx [] = pure true := by rfl
theorem evalConds_cons (o : Oracles) (ctx : Ctx) (e : Expr) (es : List Expr) :
    evalConds o ctx (e :: es) = (do
      let v ← eval o ctx e
      if truthy v then evalConds o ctx es else pure false) := by rfl
theorem eval_attr (o : Oracles) (ctx : Ctx) (e : Expr) (a : String) :
    eval o ctx (.attr e a) = rowAttr (eval o ctx e) (lowerName a) := by rfl
theorem eval_attrName (o : Oracles) (ctx : Ctx) (id a : String) :
    eval o ctx (.attrName id a) =
      (if lowerName id == "txn" then
        (match txnAttr ctx (lowerName a) with
         | some v => pure v
         | none => exprErr "Unknown txn attribute")
      else if lowerName id == "field" then
        (match fieldBuiltin ctx (lowerName a) with
         | some v => pure v
         | none =>
           match ctx.field with
           | some f => (match f.lookup (lowerName a) with
             | some v => pure v
             | none => exprErr "Unknown field")
           | none => exprErr "Unknown field")
      else rowAttr (lookupName ctx id) (lowerName a)) := by rfl
theorem eval_callOther (o : Oracles) (ctx : Ctx) (g : Expr) (args : List Expr) :
    eval o ctx (.callOther g args) = exprErr "Only simple function calls are supported" := by rfl
theorem eval_genexp (o : Oracles) (ctx : Ctx) (elt : Expr) (gens : List Comp) :
    eval o ctx (.genexp elt gens) = raise (.unmodelled "generator object outside a consuming call") := by rfl
theorem eval_subscript (o : Oracles) (ctx : Ctx) (e i : Expr) :
    eval o ctx (.subscript e i) = (do
      let v ← eval o ctx e
      let idx ← eval o ctx i
      match v with
      | .str s =>
        (match isIntLike idx with
         | some k => (match pyIndex s.toList k with
           | some c => pure (.str (String.singleton c))
           | none => exprErr "Index error")
         | none => pyErr .typeError)
      | .list xs =>
        (match isIntLike idx with
         | some k => (match pyIndex xs k with
           | some x => pure x
           | none => exprErr "Index error")
         | none => pyErr .typeError)
      | .row kvs =>
        if !hashable idx then pyErr .typeError else
        (match idx with
         | .str k => (match kvs.lookup k with
           | some x => pure x
           | none => exprErr "Index error")
         | _ => exprErr "Index error")
      | _ => pyErr .typeError) := by rfl
theorem evalArgs_nil (o : Oracles) (ctx : Ctx) : evalArgs o ctx [] = pure [] := by rfl
theorem evalArgs_cons (o : Oracles) (ctx : Ctx) (e : Expr) (es : List Expr) :
    evalArgs o ctx (e :: es) = (do
      let v ← eval o ctx e
      let vs ← evalArgs o ctx es
      pure (v :: vs)) := by rfl
theorem evalLazyArgs_nil (o : Oracles) (ctx : Ctx) (c : Consumer) (acc : Acc) : evalLazyArgs o ctx c [] acc = pure acc := by rfl
theorem evalLazyArgs_cons (o : Oracles) (ctx : Ctx) (c : Consumer) (e : Expr) (es : List Expr) (acc : Acc) :
    evalLazyArgs o ctx c (e :: es) acc = (do
      let v ← eval o ctx e
      match consume c acc v with
      | .ok (.more a) => evalLazyArgs o ctx c es a
      | .ok (.done a) => pure a
      | .error err => raise err) := by rfl

end Equations

section BoolOp

@[simp] theorem truthy_bool (b : Bool) : truthy (.bool b) = b := rfl

theorem eval_boolop_nil (o : Oracles) (ctx : Ctx) (isAnd : Bool) : eval o ctx (.boolop isAnd []) = pure (.bool isAnd) := rfl
theorem eval_boolop_cons (o : Oracles) (ctx : Ctx) (isAnd : Bool) (a : Expr) (rest : List Expr) :
    eval o ctx (.boolop isAnd (a :: rest)) = (do
      let v ← eval o ctx a
      if truthy v = isAnd then eval o ctx (.boolop isAnd rest) else pure (.bool (!isAnd))) := by
  cases isAnd <;>
    simp only [eval_boolop, evalBool_cons, bind_assoc, ite_bind, pure_bind, if_true, Bool.false_eq_true, if_false,
      Bool.not_true, Bool.not_false, ← Bool.not_eq_true, ite_not]
/-- De Morgan, for both connectives and as computations: by the monad laws both sides are `a`, then (unless it decides) `b` -/
theorem eval_not_boolop (o : Oracles) (ctx : Ctx) (isAnd : Bool) (a b : Expr) :
    eval o ctx (.unop .not (.boolop isAnd [a, b])) = eval o ctx (.boolop (!isAnd) [.unop .not a, .unop .not b]) := by
  simp only [eval_unop, eval_boolop_cons, eval_boolop_nil, bind_assoc, pure_bind, ite_bind, truthy_bool, Bool.not_not,
    Bool.not_inj_iff]

end BoolOp

end TallyVerif.Expr
