import TallyVerif.Lemmas.Text
/-! Lemmas on one row of a statement (property C05), in sections: `RowLoop`, the loop over the rows is a `filterMap`;
`Outcome`, how `parseRow` ends (`RowOutcome`, `Accepted`), and that an accepted row has every column the format names;
`Amount`, `cleanAmount` stage by stage on an amount as statements write it, and the round trip through the decimal grammar;
`Template`, `str.format` on templates of literals and references (`Seg`); `DateToken`, which part of the date cell goes to
`strptime`.  (From the file's text to its rows: `Lemmas/CsvReader`.) -/
namespace TallyVerif.Csv

section RowLoop

/-- the transaction a row yields, if any (Spec view of one loop iteration) -/
def rowTxn (o : Oracles) (cfg : Cfg) (row : List Str) : Option Txn :=
  match parseRow o cfg row with
  | .ok t => some t
  | .error _ => none

/-- does the row raise an exception that the per-row `except` does not catch? -/
def rowFatal (o : Oracles) (cfg : Cfg) (row : List Str) : Bool :=
  match parseRow o cfg row with
  | .ok _ => false
  | .error e => e.fatal

theorem foldl_step_error (o : Oracles) (cfg : Cfg) (e : Err) (rows : List (List Str)) :
    rows.foldl (step o cfg) (.error e) = .error e := by
  induction rows with
  | nil => rfl
  | cons r rs ih => exact ih

theorem foldl_step_ok (o : Oracles) (cfg : Cfg) (rows : List (List Str))
    (h : ∀ r ∈ rows, rowFatal o cfg r = false) (acc : List Txn) :
    rows.foldl (step o cfg) (.ok acc) = .ok (acc ++ rows.filterMap (rowTxn o cfg)) := by
  induction rows generalizing acc with
  | nil => simp
  | cons r rs ih =>
    obtain ⟨hr, hrs⟩ := List.forall_mem_cons.mp h
    rw [List.foldl_cons, List.filterMap_cons]
    fun_cases rowTxn o cfg r
    case case1 t hp => simp only [step, hp]; rw [ih hrs]; simp
    case case2 e hp =>
      have hf : e.fatal = false := by simpa [rowFatal, hp] using hr
      simp only [step, hp, hf, Bool.false_eq_true, if_false]; exact ih hrs acc

end RowLoop

section Outcome

/-- the transaction built from the pieces of an accepted row -/
def mkTxn (cfg : Cfg) (row : List Str) (desc : Str) (caps : List (Str × Str)) (dt : Str) (q : F64) : Txn :=
  { date := dt, rawDescription := desc, amount := applySign cfg.spec q, source := sourceOf cfg,
    location := locationOf cfg.spec row desc, isCredit := (applySign cfg.spec q).ltZero,
    field := if caps.isEmpty then none else some caps }

theorem applySign_mag (s : Spec) (q : F64) : (applySign s q).mag = q.mag := by
  fun_cases applySign s q <;> rfl

theorem applySign_neg (s : Spec) (q : F64) :
    (applySign s q).neg = (if s.absAmount then false else if s.negateAmount then !q.neg else q.neg) := by
  simp only [applySign, apply_ite F64.neg, F64.abs, F64.negate]

theorem applySign_isZero (s : Spec) (q : F64) : (applySign s q).isZero = q.isZero := by
  simp [F64.isZero, applySign_mag]

/-- every stage of `parseRow` succeeds on `row`; `desc caps tok dt q` are what the stages return -/
structure Accepted (o : Oracles) (cfg : Cfg) (row : List Str) (desc : Str) (caps : List (Str × Str)) (tok dt : Str)
    (q : F64) : Prop where
  len : maxCol cfg.spec < row.length
  described : describe cfg.spec row = .ok (desc, caps)
  dateCell : (cell row cfg.spec.dateCol).isEmpty = false
  descNe : desc.isEmpty = false
  amountCell : (cell row cfg.spec.amountCol).isEmpty = false
  token : dateToken cfg.spec (cell row cfg.spec.dateCol) = some tok
  date : o.strptime cfg.spec.dateFormat tok = .ok dt
  amount : rawAmount o cfg row = some q
  finite : cfg.skipNonFinite = true → q.isFinite = true
  nonzero : q.isZero = false

/-- how `parseRow` ends: with an exception the per-row `except` catches (short row, empty field, no date token, bad amount,
non-finite, zero), with the exception of `describe` or of `strptime`, or with a transaction -/
inductive RowOutcome (o : Oracles) (cfg : Cfg) (row : List Str) : Except Err Txn → Prop
  | skipped (e : Err) : e.fatal = false → RowOutcome o cfg row (.error e)
  | describe (e : Err) : describe cfg.spec row = .error e → RowOutcome o cfg row (.error e)
  | date (tok : Str) (e : DateErr) : o.strptime cfg.spec.dateFormat tok = .error e → RowOutcome o cfg row (.error e.toErr)
  | ok (desc : Str) (caps : List (Str × Str)) (tok dt : Str) (q : F64) :
      Accepted o cfg row desc caps tok dt q → RowOutcome o cfg row (.ok (mkTxn cfg row desc caps dt q))

theorem parseRow_outcome (o : Oracles) (cfg : Cfg) (row : List Str) : RowOutcome o cfg row (parseRow o cfg row) := by
  fun_cases parseRow o cfg row
  case case2 e hd => exact .describe e hd
  case case5 tok _ e hdt => exact .date tok e hdt
  -- the last branch: every guard passed, the transaction is built
  case case9 s hlen _ _ desc caps hd hne tok htok dt hdt q hq hfin _ hz =>
    simp only [Bool.or_eq_true, not_or, Bool.not_eq_true] at hne
    exact .ok desc caps tok dt q ⟨Nat.not_le.mp hlen, hd, hne.1.1, hne.1.2, hne.2, htok, hdt, hq,
      fun hs => by simpa [hs] using hfin, applySign_isZero s q ▸ Bool.eq_false_iff.mpr hz⟩
  -- every other branch of the code raises one of the exceptions the per-row `except` catches
  all_goals exact .skipped _ rfl

theorem accepted_of_parseRow {o : Oracles} {cfg : Cfg} {row : List Str} {t : Txn} (h : parseRow o cfg row = .ok t) :
    ∃ desc caps tok dt q, Accepted o cfg row desc caps tok dt q ∧ t = mkTxn cfg row desc caps dt q := by
  have ho := parseRow_outcome o cfg row
  rw [h] at ho
  cases ho with
  | ok desc caps tok dt q a => exact ⟨desc, caps, tok, dt, q, a, rfl⟩

theorem Accepted.parseRow {o : Oracles} {cfg : Cfg} {row : List Str} {desc : Str} {caps : List (Str × Str)} {tok dt : Str}
    {q : F64} (a : Accepted o cfg row desc caps tok dt q) : parseRow o cfg row = .ok (mkTxn cfg row desc caps dt q) := by
  have hlen : ¬ row.length ≤ maxCol cfg.spec := Nat.not_le.mpr a.len
  have hz := applySign_isZero cfg.spec q ▸ a.nonzero
  simp only [Csv.parseRow, hlen, if_false, a.described, a.dateCell, a.descNe, a.amountCell, a.token, a.date,
    show parseAmount o cfg.eu _ = some q from a.amount, hz, Bool.or_self, Bool.false_eq_true, mkTxn]
  by_cases hs : cfg.skipNonFinite = true
  · simp [hs, a.finite hs]
  · simp [hs]

theorem required_lt_length (s : Spec) (row : List Str) (i : Nat) (hi : i ∈ requiredCols s)
    (h : maxCol s < row.length) : i < row.length := by
  have hle := List.le_max?_getD_of_mem (k := 0) hi
  rw [maxCol, List.foldl_max] at h
  exact Nat.lt_of_le_of_lt hle h

end Outcome

section Amount

theorem groupRev_filter (sep : Char) (p : Char → Bool) (hp : p sep = false) (l : Str) :
    (groupRev sep l).filter p = l.filter p := by
  fun_induction groupRev sep l with
  | case1 a b c d rest ih => simp [List.filter_cons, hp, ih]
  | case2 l h => rfl

theorem group3_filter (sep : Char) (p : Char → Bool) (hp : p sep = false) (l : Str) :
    (group3 sep l).filter p = l.filter p := by
  simp [group3, List.filter_reverse, groupRev_filter sep p hp]

theorem mem_group3 {sep : Char} {l : Str} {c : Char} (h : c ∈ group3 sep l) : c ∈ l ∨ c = sep := by
  by_cases hc : c = sep
  · exact Or.inr hc
  · -- what is not `sep` survives the filter that removes `sep`, and that filter sees `l` alone
    have hm : c ∈ (group3 sep l).filter (· != sep) := List.mem_filter.mpr ⟨h, by simpa using hc⟩
    rw [group3_filter sep _ (by simp)] at hm
    exact Or.inl (List.mem_filter.mp hm).1

theorem groupRev_getLast? (sep : Char) (l : Str) : (groupRev sep l).getLast? = l.getLast? := by
  fun_induction groupRev sep l with
  | case1 a b c d rest ih => simp only [List.getLast?_cons, ih, Option.getD_some]
  | case2 l h => rfl

theorem group3_head? (sep : Char) (l : Str) : (group3 sep l).head? = l.head? := by
  simp [group3, List.head?_reverse, groupRev_getLast?, List.getLast?_reverse]

/-- last step of `cleanAmount`: drop the thousands separators, decimal comma → point -/
def normSep (eu : Bool) (s : Str) : Str :=
  if eu then (s.filter fun c => c != '.' && c != ' ').map (fun c => if c == ',' then '.' else c)
  else s.filter fun c => c != ','

theorem normSep_minus (eu : Bool) (s : Str) : normSep eu ('-' :: s) = '-' :: normSep eu s := by
  cases eu <;> simp [normSep]

theorem normSep_append (eu : Bool) (a b : Str) : normSep eu (a ++ b) = normSep eu a ++ normSep eu b := by
  cases eu <;> simp [normSep]

theorem normSep_eq_self (eu : Bool) (s : Str) (h : ∀ c ∈ s, c ≠ ',' ∧ c ≠ '.' ∧ c ≠ ' ') : normSep eu s = s := by
  cases eu with
  | false => exact List.filter_eq_self.mpr fun c hc => by simpa using (h c hc).1
  | true =>
    have hm : s.map (fun c => if c == ',' then '.' else c) = s.map id :=
      List.map_congr_left fun c hc => by simp [(h c hc).1]
    rw [normSep, if_pos rfl, List.filter_eq_self.mpr fun c hc => by simpa using (h c hc).2, hm, List.map_id]

theorem normSep_digits (eu : Bool) (ds : List Nat) (h : ∀ d ∈ ds, d < 10) :
    normSep eu (ds.map digitChar) = ds.map digitChar :=
  normSep_eq_self eu _ <| List.forall_mem_map.mpr fun d hd =>
    ⟨digitChar_ne (h d hd) rfl, digitChar_ne (h d hd) rfl, digitChar_ne (h d hd) rfl⟩

theorem normSep_group3 (eu blank : Bool) (w : Str) :
    normSep eu (group3 (if eu then (if blank then ' ' else '.') else ',') w) = normSep eu w := by
  cases eu <;> cases blank <;> simp only [normSep, Bool.false_eq_true, if_false, if_true] <;>
    rw [group3_filter _ _ (by decide)]

theorem cleanAmount_paren (eu : Bool) (s : Str) :
    cleanAmount eu ('(' :: s ++ [')']) = (true, normSep eu (strip (s.filter fun c => !isCurrency c))) := by
  have hl : ('(' :: s ++ [')']).getLast? = some ')' := List.getLast?_concat
  have hs : strip ('(' :: s ++ [')']) = '(' :: s ++ [')'] :=
    strip_eq_self _ (fun c hc => by cases hc; decide) (fun c hc => by cases hl.symm.trans hc; decide)
  have hd : (('(' :: s ++ [')']).drop 1).dropLast = s := List.dropLast_concat
  have hh : ('(' :: s ++ [')']).head? = some '(' := rfl
  unfold cleanAmount normSep
  simp only [hs, hh, hl, hd, beq_self_eq_true, Bool.and_self, if_true]

theorem cleanAmount_plain (eu : Bool) {s : Str} (hs : strip s = s) (hp : s.head? ≠ some '(') :
    cleanAmount eu s = (false, normSep eu (strip (s.filter fun c => !isCurrency c))) := by
  have hpb : (s.head? == some '(') = false := by simpa using hp
  unfold cleanAmount normSep
  simp only [hs, hpb, Bool.false_and, Bool.false_eq_true, if_false]

theorem filter_withSymbol (st : Style) (B : Str) (hsym : ∀ c, st.symbol = some c → isCurrency c = true) :
    ∃ ws, ws.all isPySpace = true ∧
      (withSymbol st B).filter (fun c => !isCurrency c) = B.filter (fun c => !isCurrency c) ++ ws := by
  fun_cases withSymbol st B
  case case1 => exact ⟨[], rfl, (List.append_nil _).symm⟩  -- no symbol
  case case2 c hc _ => exact ⟨[], rfl, by simp [hsym c hc]⟩  -- symbol in front
  case case3 c hc _ => exact ⟨[], rfl, by simp [hsym c hc]⟩  -- symbol behind
  -- symbol behind a blank: the blank stays
  case case4 c hc _ => exact ⟨[' '], by decide, by simp [List.filter_cons, hsym c hc]; decide⟩

theorem withSymbol_ends (st : Style) (B : Str) (hne : B ≠ []) (c : Char) :
    ((withSymbol st B).head? = some c → B.head? = some c ∨ st.symbol = some c) ∧
    ((withSymbol st B).getLast? = some c → B.getLast? = some c ∨ st.symbol = some c) := by
  obtain ⟨y, ys, rfl⟩ := List.exists_cons_of_ne_nil hne
  unfold withSymbol
  cases st.symbol with
  | none => exact ⟨Or.inl, Or.inl⟩
  | some x =>
    cases st.symPos with
    | pre => exact ⟨Or.inr, fun h => Or.inl (by simpa [List.getLast?_cons_cons] using h)⟩
    | post => exact ⟨Or.inl, fun h => Or.inr (by rwa [List.getLast?_concat] at h)⟩
    | postSpace =>
      exact ⟨Or.inl, fun h => Or.inr (by
        have h' : (y :: ys ++ [' ', x]).getLast? = some c := h
        rwa [List.append_cons, List.getLast?_concat] at h')⟩

theorem currency_not_space_nor_paren {c : Char} (h : isCurrency c = true) : isPySpace c = false ∧ c ≠ '(' := by
  simp only [isCurrency, Bool.or_eq_true, beq_iff_eq] at h
  rcases h with ((rfl | rfl) | rfl) | rfl <;> decide

/-- Everything `parse_amount` does before `float()`, on a number `B` with a currency symbol and a sign around it: the
parentheses are recognised and removed, the symbol (and the blank before it) disappears, a leading minus stays. -/
theorem cleanAmount_signed (eu : Bool) (st : Style) (negative : Bool) (B : Str)
    (hcur : ∀ c ∈ B, isCurrency c = false) (hne : B ≠ [])
    (hh : ∀ c, B.head? = some c → isPySpace c = false ∧ c ≠ '(')
    (hl : ∀ c, B.getLast? = some c → isPySpace c = false)
    (hsym : ∀ c, st.symbol = some c → isCurrency c = true) :
    cleanAmount eu (if negative then (if st.paren then '(' :: withSymbol st B ++ [')'] else '-' :: withSymbol st B)
                    else withSymbol st B) =
      (negative && st.paren, normSep eu (if negative && !st.paren then '-' :: B else B)) := by
  have hfB : B.filter (fun c => !isCurrency c) = B := List.filter_eq_self.mpr fun c hc => by rw [hcur c hc]; rfl
  obtain ⟨ws, hws, hfW⟩ := filter_withSymbol st B hsym
  rw [hfB] at hfW
  have hWh : ∀ c, (withSymbol st B).head? = some c → isPySpace c = false ∧ c ≠ '(' := fun c h =>
    ((withSymbol_ends st B hne c).1 h).elim (hh c) fun hs => currency_not_space_nor_paren (hsym c hs)
  have hWl : ∀ c, (withSymbol st B).getLast? = some c → isPySpace c = false := fun c h =>
    ((withSymbol_ends st B hne c).2 h).elim (hl c) fun hs => (currency_not_space_nor_paren (hsym c hs)).1
  have hsB : strip (B ++ ws) = B := strip_pad [] B ws rfl hws (fun c h => (hh c h).1) hl
  cases negative with
  | false =>
    rw [if_neg Bool.false_ne_true, cleanAmount_plain eu (strip_eq_self _ (fun c h => (hWh c h).1) hWl)
      (fun h => (hWh _ h).2 rfl), hfW, hsB]
    rfl
  | true =>
    cases st.paren with
    | true => rw [if_pos rfl, if_pos rfl, cleanAmount_paren, hfW, hsB]; rfl
    | false =>
      -- a minus in front changes neither the last character nor what the filter does behind it
      have hWne : withSymbol st B ≠ [] := by
        intro h; rw [h] at hfW; exact hne (List.append_eq_nil_iff.mp hfW.symm).1
      have hsmB : strip ('-' :: B ++ ws) = '-' :: B :=
        strip_pad [] ('-' :: B) ws rfl hws (fun c h => by cases h; decide) (fun c h => hl c (List.getLast?_cons_of_ne_nil hne ▸ h))
      rw [if_pos rfl, if_neg Bool.false_ne_true,
        cleanAmount_plain eu (strip_eq_self _ (fun c h => by cases h; decide) (fun c h => hWl c (List.getLast?_cons_of_ne_nil hWne ▸ h)))
          (fun h => by cases h),
        List.filter_cons_of_pos (by decide), hfW, ← List.cons_append, hsmB]
      rfl

theorem digitChar_not_currency {d : Nat} (h : d < 10) : isCurrency (digitChar d) = false := by
  revert d; decide

theorem renderBody_all (p : Char → Prop) (eu : Bool) (st : Style) (whole : List Nat) (d1 d2 : Nat)
    (hw : ∀ d ∈ whole, d < 10) (h1 : d1 < 10) (h2 : d2 < 10)
    (hd : ∀ d, d < 10 → p (digitChar d)) (hc : p ',') (hp : p '.') (hb : p ' ') :
    ∀ c ∈ renderBody eu st whole d1 d2, p c := by
  have hwc : ∀ c ∈ whole.map digitChar, p c := List.forall_mem_map.mpr fun d hd' => hd d (hw d hd')
  intro c hm
  simp only [renderBody, List.mem_append, List.mem_cons, List.not_mem_nil, or_false] at hm
  rcases hm with hm | rfl | rfl | rfl
  · split at hm  -- the whole part, grouped or not
    · rcases mem_group3 hm with h | rfl
      · exact hwc c h
      · cases eu <;> cases st.blankSep <;> assumption
    · exact hwc c hm
  · cases eu <;> assumption  -- the decimal separator
  · exact hd d1 h1
  · exact hd d2 h2

theorem renderBody_head (eu : Bool) (st : Style) (whole : List Nat) (d1 d2 : Nat) (hw : ∀ d ∈ whole, d < 10) :
    ∀ c, (renderBody eu st whole d1 d2).head? = some c → isPySpace c = false ∧ c ≠ '(' := by
  intro c hc
  simp only [renderBody, List.head?_append, apply_ite List.head?, group3_head?, ite_self] at hc
  cases whole with
  | nil => cases eu <;> cases hc <;> decide
  | cons d ds => cases hc; exact ⟨digitChar_not_space (hw d (by simp)), digitChar_ne (hw d (by simp)) rfl⟩

theorem normSep_renderBody (eu : Bool) (st : Style) (whole : List Nat) (d1 d2 : Nat)
    (hw : ∀ d ∈ whole, d < 10) (h1 : d1 < 10) (h2 : d2 < 10) :
    normSep eu (renderBody eu st whole d1 d2) = whole.map digitChar ++ ['.', digitChar d1, digitChar d2] := by
  rw [renderBody, normSep_append, apply_ite (normSep eu), normSep_group3, ite_self, normSep_digits eu whole hw]
  show _ ++ normSep eu ([if eu then ',' else '.'] ++ [d1, d2].map digitChar) = _
  rw [normSep_append, normSep_digits eu [d1, d2] (by simp [h1, h2])]
  cases eu <;> rfl

theorem scanInt_digits (ds : List Nat) (hds : ∀ d ∈ ds, d < 10) (acc : Nat) (any : Bool) (rest : Str) :
    scanInt acc any (ds.map digitChar ++ rest) =
      scanInt (ds.foldl (fun a d => 10 * a + d) acc) (any || !ds.isEmpty) rest := by
  induction ds generalizing acc any with
  | nil => simp
  | cons d ds ih =>
    obtain ⟨hd, hds⟩ := List.forall_mem_cons.mp hds
    have hne : (digitChar d == '.') = false := by simpa using digitChar_ne hd (c := '.') rfl
    simp only [List.map_cons, List.cons_append, scanInt, hne, Bool.false_eq_true, if_false, digitVal_digitChar hd]
    rw [ih hds]
    simp

/-- a text the unsigned grammar accepts begins with no sign -/
theorem decimalValue_of_scanInt {s : Str} {m k : Nat} (h : scanInt 0 false s = some (m, k)) :
    decimalValue s = some ((m : Int), k) := by
  unfold decimalValue
  split
  · cases h
  · cases h
  · rw [h]; rfl

theorem decimalValue_digits (neg : Bool) (whole : List Nat) (d1 d2 : Nat)
    (hw : ∀ d ∈ whole, d < 10) (h1 : d1 < 10) (h2 : d2 < 10) :
    decimalValue (if neg then '-' :: (whole.map digitChar ++ ['.', digitChar d1, digitChar d2])
        else whole.map digitChar ++ ['.', digitChar d1, digitChar d2]) =
      some (if neg then -((ofDigits whole * 100 + d1 * 10 + d2 : Nat) : Int) else ((ofDigits whole * 100 + d1 * 10 + d2 : Nat) : Int), 2) := by
  have key : scanInt 0 false (whole.map digitChar ++ ['.', digitChar d1, digitChar d2]) =
      some (ofDigits whole * 100 + d1 * 10 + d2, 2) := by
    rw [scanInt_digits whole hw]
    simp only [scanInt, scanFrac, digitVal_digitChar h1, digitVal_digitChar h2, ofDigits, beq_self_eq_true, if_true,
      Option.some.injEq, Prod.mk.injEq, and_true]
    omega
  cases neg with
  | true => simp only [if_true, decimalValue, key, Option.map_some]
  | false => exact decimalValue_of_scanInt key

/-- **Round trip.** A number of cents written the way statements write it (optional thousands grouping, optional
currency symbol before / after / after a blank, negative as `-…` or `(…)`), in either decimal convention, is read
back by `parse_amount`'s cleaning + the decimal grammar as exactly that number of cents / 100. -/
theorem amount_roundtrip (eu : Bool) (st : Style) (negative : Bool) (whole : List Nat) (d1 d2 : Nat)
    (hw : ∀ d ∈ whole, d < 10) (h1 : d1 < 10) (h2 : d2 < 10)
    (hsym : ∀ c, st.symbol = some c → isCurrency c = true) :
    parseAmountExact eu (render eu st negative whole d1 d2) = some (centsOf negative whole d1 d2, 2) := by
  have hc := cleanAmount_signed eu st negative (renderBody eu st whole d1 d2)
    (renderBody_all (isCurrency · = false) eu st whole d1 d2 hw h1 h2 (fun _ => digitChar_not_currency) rfl rfl rfl)
    (by simp [renderBody]) (renderBody_head eu st whole d1 d2 hw)
    (fun c h => by rw [renderBody, List.getLast?_append] at h; cases h; exact digitChar_not_space h2) hsym
  rw [parseAmountExact, render, hc]
  dsimp only
  rw [apply_ite (normSep eu), normSep_minus, normSep_renderBody eu st whole d1 d2 hw h1 h2,
    decimalValue_digits _ whole d1 d2 hw h1 h2]
  cases negative <;> cases st.paren <;> simp [centsOf]

theorem ofDigits_digitsOf (n : Nat) : ofDigits (digitsOf n) = n := by
  fun_induction digitsOf n with
  | case1 n h => simp [ofDigits]
  | case2 n h ih => unfold ofDigits at ih ⊢; rw [List.foldl_append, ih]; simp only [List.foldl]; omega

theorem digitsOf_lt (n : Nat) : ∀ d ∈ digitsOf n, d < 10 := by
  fun_induction digitsOf n with
  | case1 n h => exact List.forall_mem_singleton.mpr h
  | case2 n h ih => exact List.forall_mem_append.mpr ⟨ih, List.forall_mem_singleton.mpr (Nat.mod_lt n (by decide))⟩

theorem renderCents_roundtrip (eu : Bool) (st : Style) (n : Int) (hsym : ∀ c, st.symbol = some c → isCurrency c = true) :
    parseAmountExact eu (renderCents eu st n) = some (n, 2) := by
  have h1 : n.natAbs % 100 / 10 < 10 := Nat.div_lt_of_lt_mul (Nat.mod_lt _ (by decide))
  rw [renderCents, amount_roundtrip eu st _ _ _ _ (digitsOf_lt _) h1 (Nat.mod_lt _ (by decide)) hsym, centsOf, ofDigits_digitsOf]
  -- hundreds, tens and units make up `|n|` again
  rw [Nat.add_assoc, ← Nat.mod_mod_of_dvd n.natAbs (by decide : 10 ∣ 100), Nat.div_add_mod', Nat.div_add_mod']
  by_cases hn : n < 0
  · rw [decide_eq_true hn, if_pos rfl, Int.ofNat_natAbs_of_nonpos (Int.le_of_lt hn), Int.neg_neg]
  · rw [decide_eq_false hn, if_neg Bool.false_ne_true, Int.natAbs_of_nonneg (Int.not_lt.mp hn)]

end Amount

section Template

/-- a description template as `parse_format_string` accepts it: literal text and `{name}` references -/
inductive Seg
  | lit (s : Str)
  | ref (n : Str)

def escapeChar (c : Char) : Str := if c == '{' then ['{', '{'] else if c == '}' then ['}', '}'] else [c]

/-- literal text with braces doubled -/
def escapeLit : Str → Str
  | [] => []
  | c :: r => escapeChar c ++ escapeLit r

/-- the template string a list of segments stands for -/
def renderSegs : List Seg → Str
  | [] => []
  | .lit s :: r => escapeLit s ++ renderSegs r
  | .ref n :: r => '{' :: n ++ '}' :: renderSegs r

/-- the text the template should produce -/
def fillSegs (caps : List (Str × Str)) : List Seg → Str
  | [] => []
  | .lit s :: r => s ++ fillSegs caps r
  | .ref n :: r => (lookupCap caps n).getD [] ++ fillSegs caps r

/-- a field name `str.format` treats as a plain keyword: not empty / all digits (positional), no `{ } ! : . [` -/
def plainName (n : Str) : Bool :=
  !allDigits n && n.all fun c => c != '{' && c != '}' && !isFieldSpecial c

/-- the template's references are plain names among the captured column names (a property of the spec alone) -/
def refsOk (names : List Str) : List Seg → Bool
  | [] => true
  | .lit _ :: r => refsOk names r
  | .ref n :: r => plainName n && names.contains n && refsOk names r

theorem fmtScan_lit_char (caps : List (Str × Str)) (out : Str) (c : Char) (rest : Str) :
    fmtScan caps none out (escapeChar c ++ rest) = fmtScan caps none (out ++ [c]) rest := by
  unfold escapeChar
  by_cases h1 : c = '{'
  · subst h1; exact fmtScan.eq_2 caps out rest  -- `{{`
  · by_cases h2 : c = '}'
    · subst h2; exact fmtScan.eq_4 caps out rest  -- `}}`
    · rw [if_neg (by simpa using h1), if_neg (by simpa using h2)]
      -- any other character, outside a field
      exact fmtScan.eq_6 caps out c rest (fun _ h => absurd h h1) h1 (fun _ h => absurd h h2) h2

theorem fmtScan_lit (caps : List (Str × Str)) (s : Str) (out rest : Str) :
    fmtScan caps none out (escapeLit s ++ rest) = fmtScan caps none (out ++ s) rest := by
  induction s generalizing out with
  | nil => simp [escapeLit]
  | cons c r ih => simp only [escapeLit, List.append_assoc]; rw [fmtScan_lit_char, ih]; simp

theorem fmtScan_name (caps : List (Str × Str)) (n nm out rest : Str)
    (hn : n.all (fun c => c != '{' && c != '}' && !isFieldSpecial c) = true) :
    fmtScan caps (some nm) out (n ++ rest) = fmtScan caps (some (nm ++ n)) out rest := by
  induction n generalizing nm with
  | nil => simp
  | cons c r ih =>
    simp only [List.all_cons, Bool.and_eq_true, bne_iff_ne, ne_eq, Bool.not_eq_true'] at hn
    obtain ⟨⟨⟨h1, h2⟩, h3⟩, hr⟩ := hn
    -- `eq_9`: inside a field, a character other than `}`
    rw [List.cons_append, fmtScan.eq_9 caps out nm c _ h2, if_neg (by simpa using h1), if_neg (by simp [h3]), ih _ hr,
      List.append_assoc, List.singleton_append]

theorem fmtScan_ref (caps : List (Str × Str)) (n out rest v : Str) (hp : plainName n = true)
    (hv : lookupCap caps n = some v) :
    fmtScan caps none out ('{' :: n ++ '}' :: rest) = fmtScan caps none (out ++ v) rest := by
  simp only [plainName, Bool.and_eq_true, Bool.not_eq_true'] at hp
  -- a plain name does not begin with `{`: the brace before it is not half of the escape `{{`
  have hopen : ∀ r, n ++ '}' :: rest = '{' :: r → False := by
    intro r h
    cases n with
    | nil => cases h
    | cons c n' => cases h; simp at hp
  -- `eq_3`: a single `{` opens a field; `eq_8`: `}` closes it and the name is looked up
  rw [List.cons_append, fmtScan.eq_3 caps out _ hopen, fmtScan_name caps n [] out _ hp.2, List.nil_append,
    fmtScan.eq_8, if_neg (by simp [hp.1]), hv]

theorem lookupCap_isSome (caps : List (Str × Str)) (n : Str) :
    (lookupCap caps n).isSome = (caps.map (·.1)).contains n := by
  induction caps with
  | nil => rfl
  | cons p r ih =>
    simp only [List.map_cons, lookupCap, List.contains_cons, ← ih, BEq.comm (a := n)]
    cases p.1 == n <;> rfl

theorem captureCells_names (row : List Str) (cc : List (Str × Nat)) : (captureCells row cc).map (·.1) = cc.map (·.1) := by
  simp [captureCells]

theorem fmtScan_segs (caps : List (Str × Str)) (segs : List Seg) (out : Str)
    (h : refsOk (caps.map (·.1)) segs = true) :
    fmtScan caps none out (renderSegs segs) = .ok (out ++ fillSegs caps segs) := by
  fun_induction renderSegs segs generalizing out with
  | case1 => simp [fillSegs, fmtScan]
  | case2 s r ih => rw [fmtScan_lit, ih _ h, fillSegs, List.append_assoc]
  | case3 n r ih =>
    simp only [refsOk, Bool.and_eq_true, ← lookupCap_isSome] at h
    obtain ⟨⟨hplain, hcap⟩, hr⟩ := h
    obtain ⟨v, hv⟩ := Option.isSome_iff_exists.mp hcap
    rw [fmtScan_ref caps n out _ v hplain hv, ih _ hr, fillSegs, hv, Option.getD_some, List.append_assoc]

end Template

section DateToken

/-- the date format contains a blank: the whole cell, stripped, is handed to `strptime` -/
theorem dateToken_whole (spec : Spec) (pre tok post : Str) (hfmt : spec.dateFormat.any isPySpace = true)
    (hhead : ∀ c, tok.head? = some c → isPySpace c = false) (hlast : ∀ c, tok.getLast? = some c → isPySpace c = false)
    (hpre : pre.all isPySpace = true) (hpost : post.all isPySpace = true) :
    dateToken spec (strip (pre ++ tok ++ post)) = some tok := by
  rw [dateToken, if_pos hfmt, strip_pad pre tok post hpre hpost hhead hlast]

theorem firstToken_append (tok b : Str) (hne : tok ≠ []) (htok : ∀ c ∈ tok, isPySpace c = false)
    (hb : b = [] ∨ ∃ c r, b = c :: r ∧ isPySpace c = true) : firstToken (tok ++ b) = some tok := by
  obtain ⟨c0, r0, rfl⟩ := List.exists_cons_of_ne_nil hne
  rw [firstToken, lstrip_of_head _ (fun c hc => by cases hc; exact htok c0 (List.mem_cons_self ..))]
  show some (((c0 :: r0) ++ b).takeWhile _) = _
  rw [List.takeWhile_append_of_pos (by simpa using htok)]
  -- behind `tok` the scan ends at once: at the end of the text, or at the blank `c`
  rcases hb with rfl | ⟨c, r, rfl, hc⟩
  · simp
  · simp [hc]

/-- the date format contains no blank: the first white-space separated token of the cell is handed to `strptime` - blanks
around the date and a trailing token (a weekday, a time …) are cut off -/
theorem dateToken_first (spec : Spec) (pre tok post : Str) (hfmt : spec.dateFormat.any isPySpace = false)
    (hne : tok ≠ []) (htok : ∀ c ∈ tok, isPySpace c = false) (hpre : pre.all isPySpace = true)
    (hpost : post = [] ∨ ∃ c r, post = c :: r ∧ isPySpace c = true) :
    dateToken spec (strip (pre ++ tok ++ post)) = some tok := by
  rw [dateToken, if_neg (by rw [hfmt]; exact Bool.false_ne_true), strip_sandwich pre tok post hpre hne
    (fun c hc => htok c (List.mem_of_head? hc)) (fun c hc => htok c (List.mem_of_getLast? hc))]
  refine firstToken_append tok _ hne htok ?_
  -- what is left of `post` still begins with its first character
  cases hr : rstrip post with
  | nil => exact Or.inl rfl
  | cons c r =>
    obtain ⟨suf, hsuf⟩ := rstrip_prefix post
    rcases hpost with rfl | ⟨c', r', rfl, hc'⟩
    · cases hr
    · rw [hr] at hsuf; cases hsuf; exact Or.inr ⟨c, r, rfl, hc'⟩

end DateToken

end TallyVerif.Csv
