import TallyVerif.Lemmas.FsBase
/-!
An `OSError` raised by event `k` that nothing catches before the command ends, or that a handler swallows after which
nothing runs, leaves exactly the crash state after `k` events with the in-flight file written out
(`Propagates.fault_closes`): the I/O-error clauses of C15 then rest on the interruption clauses.  This is so for
`tally init` after its migration step, for the layout migration (`layout_fault_closes`) and for `tally up --migrate`
(`up_fault_cases`, where the faulted run goes on to classify: `up_fault_safe`).  Where a handler swallows the error and the
command goes on — inside the migration step of `tally init` — the handler leaves such a crash state of the step and `init`
goes on from it, unarmed (`init_fault_cases`; what follows is `Lemmas/FsInit.lean`'s).  (`Propagates` goes through the commands
statement by statement, as `Ends` of `Lemmas/FsWrites.lean` does for the undisturbed runs.)
-/
namespace TallyVerif.Fs
variable {κ : Type}

def arm (k : Nat) (m : M κ) : M κ := { m with fault := some k }

/-- the state after event `e` raised: the `with` block has closed the in-flight file -/
def failed (e : Ev κ) (m : M κ) : M κ :=
  { m with fs := flushed m.fs m.fl, fl := none, n := m.n + 1, fault := none,
           hist := m.hist ++ [⟨flushed m.fs m.fl, none⟩], evs := m.evs ++ [(e, true)] }

theorem ev_arm_eq (e : Ev κ) (m : M κ) (he : e.faultable = true) : ev e (arm m.n m) = .faulted (failed e m) := by
  simp [ev, arm, he, failed]

theorem ev_arm_ne (e : Ev κ) {m : M κ} {k : Nat} (hk : ¬ (k = m.n ∧ e.faultable = true)) :
    ev e (arm k m) = .ok (arm k (step e m)) := by
  have : ¬ (((arm k m).fault = some (arm k m).n && e.faultable) = true) := by simpa [arm] using hk
  unfold ev
  rw [if_neg this]
  rfl

/-- `m` is a state of an unarmed run that began with `fs₀`: one snapshot per event, the last one being where `m` is -/
structure Tracks (fs₀ : FS κ) (m : M κ) : Prop where
  fault : m.fault = none
  len : m.hist.length = m.n
  here : (snaps fs₀ m)[m.n]? = some (cur m)

theorem Tracks.start (fs : FS κ) : Tracks fs (start fs) := ⟨rfl, rfl, rfl⟩

theorem snaps_of_prefix {fs₀ : FS κ} {m m' : M κ} (h : m.hist <+: m'.hist) {i : Nat} {s : Snap κ}
    (hs : (snaps fs₀ m)[i]? = some s) : (snaps fs₀ m')[i]? = some s := by
  obtain ⟨t, ht⟩ := h
  have e : snaps fs₀ m' = snaps fs₀ m ++ t := by simp only [snaps, ← ht, List.cons_append]
  rw [e, List.getElem?_append_left (List.getElem?_eq_some_iff.mp hs).1]
  exact hs

/-- `f` lets an `OSError` propagate: armed at `k` it runs as unarmed, and if it comes to perform event `k` and that event
    can fail, it stops there, the `with` block having closed the in-flight file of the state after `k` events. -/
def Propagates (f : M κ → Res κ) : Prop :=
  ∀ fs₀ m k, Tracks fs₀ m → ∃ m', f m = .ok m' ∧ Tracks fs₀ m' ∧ m.hist <+: m'.hist ∧ m.n ≤ m'.n ∧
    (f (arm k m) = .ok (arm k m') ∨
     ∃ q s, f (arm k m) = .faulted q ∧ k < m'.n ∧ (snaps fs₀ m')[k]? = some s ∧ q.fs = flushed s.fs s.fl ∧ Quiet q)

namespace Propagates

theorem pure : Propagates (fun m : M κ => .ok m) := fun _ m _ h =>
  ⟨m, rfl, h, List.prefix_rfl, Nat.le_refl _, .inl rfl⟩

theorem ev (e : Ev κ) : Propagates (ev e) := by
  intro fs₀ m k h
  have hp : m.hist <+: (step e m).hist := List.prefix_append _ _
  have ht : Tracks fs₀ (step e m) :=
    ⟨h.fault, by simp [step, h.len], by simp [snaps, step, cur, ← h.len]⟩
  refine ⟨_, ev_unarmed e h.fault, ht, hp, Nat.le_succ _, ?_⟩
  by_cases hk : k = m.n ∧ e.faultable = true
  · exact .inr ⟨_, cur m, hk.1 ▸ ev_arm_eq e m hk.2, hk.1 ▸ Nat.lt_succ_self _, hk.1 ▸ snaps_of_prefix hp h.here, rfl, rfl, rfl⟩
  · exact .inl (ev_arm_ne e hk)

theorem seq {f g : M κ → Res κ} (hf : Propagates f) (hg : Propagates g) : Propagates fun m => f m ⊳ g := by
  intro fs₀ m k h
  obtain ⟨m₁, e₁, t₁, p₁, n₁, a₁⟩ := hf fs₀ m k h
  obtain ⟨m₂, e₂, t₂, p₂, n₂, a₂⟩ := hg fs₀ m₁ k t₁
  refine ⟨m₂, by simp [e₁, Res.andThen, e₂], t₂, p₁.trans p₂, Nat.le_trans n₁ n₂, ?_⟩
  rcases a₁ with a₁ | ⟨q, s, a₁, hk, hs, hq⟩
  · simp only [a₁, Res.andThen]
    exact a₂
  · exact .inr ⟨q, s, by simp [a₁, Res.andThen], Nat.lt_of_lt_of_le hk n₂, snaps_of_prefix p₂ hs, hq⟩

/-- a choice that looks at the file system only (`arm` does not change it).  A model function whose guards read `m.fs` is of this
    form up to unfolding; Lean does not find `F` by unification, so the proofs below give it, as the function's body with `fs` for
    `m.fs` in the guards (a change to that body shows up there as a type mismatch). -/
theorem dyn {F : FS κ → M κ → Res κ} (h : ∀ fs, Propagates (F fs)) : Propagates fun m => F m.fs m :=
  fun fs₀ m k hm => h m.fs fs₀ m k hm

theorem ite (c : FS κ → Bool) {f g : M κ → Res κ} (hf : Propagates f) (hg : Propagates g) :
    Propagates fun m => if c m.fs then f m else g m :=
  dyn (F := fun fs m => if c fs then f m else g m) fun fs => by cases c fs <;> simpa

theorem writeFile {p : Path} {c : Chunk κ} : Propagates (writeFile p c) :=
  ((ev _).seq (ev _)).seq (ev _)

theorem appendLines {p : Path} {l1 l2 : Line} : Propagates (appendLines (κ := κ) p l1 l2) :=
  (((ev _).seq (ev _)).seq (ev _)).seq (ev _)

theorem createIfMissing {p : Path} {s : Starter} : Propagates (createIfMissing (κ := κ) p s) :=
  ite (pathExists · p) pure writeFile

theorem viewsAppendBody (loc : Loc) : Propagates (viewsAppendBody (κ := κ) loc) := by
  refine dyn (F := fun (fs : FS κ) m => match fileAt fs ⟨loc, .settings⟩ with
    | Option.none => .ok m
    | some sc => if pathExists fs ⟨loc, .views⟩ && !mentionsVF sc then Fs.appendLines ⟨loc, .settings⟩ .vfComment .vfKey m else .ok m)
    fun fs => ?_
  cases fileAt fs ⟨loc, .settings⟩ with
  | none => exact pure
  | some sc => exact ite (fun _ => pathExists fs ⟨loc, .views⟩ && !mentionsVF sc) appendLines pure

theorem settingsAppend (v : CsvVariant) (loc : Loc) : Propagates (settingsAppend (κ := κ) v loc) := by
  refine dyn (F := fun (fs : FS κ) m => match fileAt fs ⟨loc, .settings⟩ with
    | Option.none => .ok m
    | some sc => if (if v.keyCheck then (keyMF sc).isSome else mentionsMF sc) then .ok m
                 else Fs.appendLines ⟨loc, .settings⟩ .mfComment .mfKey m) fun fs => ?_
  cases fileAt fs ⟨loc, .settings⟩ with
  | none => exact pure
  | some sc => exact ite (fun _ => if v.keyCheck then (keyMF sc).isSome else mentionsMF sc) pure appendLines

theorem backupCsv (v : CsvVariant) (loc : Loc) : Propagates (backupCsv (κ := κ) v loc) :=
  dyn (F := fun fs m => if pathExists fs ⟨loc, .csv⟩ then Fs.ev (.move ⟨loc, .csv⟩ ⟨loc, csvBackupName v fs loc⟩) m else .ok m)
    fun fs => ite (fun _ => pathExists fs ⟨loc, .csv⟩) (ev _) pure

theorem migrateCsvBody (v : CsvVariant) (loc : Loc) : Propagates (migrateCsvBody (κ := κ) v loc) := by
  refine dyn (F := fun (fs : FS κ) m =>
    if v.reorder then
      (if v.fresh && pathExists fs ⟨loc, .rules⟩ then Fs.ev (.move ⟨loc, .rules⟩ ⟨loc, rulesBackupName fs loc⟩) m else .ok m)
        ⊳ Fs.writeFile ⟨loc, .rulesTmp⟩ (migratedChunk (fileAt fs ⟨loc, .csv⟩))
        ⊳ Fs.ev (.replace ⟨loc, .rulesTmp⟩ ⟨loc, .rules⟩) ⊳ Fs.settingsAppend v loc ⊳ Fs.backupCsv v loc
    else
      (if v.fresh && pathExists fs ⟨loc, .rules⟩ then Fs.ev (.move ⟨loc, .rules⟩ ⟨loc, rulesBackupName fs loc⟩) m else .ok m)
        ⊳ Fs.writeFile ⟨loc, .rules⟩ (migratedChunk (fileAt fs ⟨loc, .csv⟩)) ⊳ Fs.backupCsv v loc ⊳ Fs.settingsAppend v loc)
    fun fs => ?_
  have first := ite (κ := κ) (fun _ => v.fresh && pathExists fs ⟨loc, .rules⟩)
    (ev (.move ⟨loc, .rules⟩ ⟨loc, rulesBackupName fs loc⟩)) pure
  exact ite (fun _ => v.reorder)
    ((((first.seq writeFile).seq (ev _)).seq (settingsAppend v loc)).seq (backupCsv v loc))
    (((first.seq writeFile).seq (backupCsv v loc)).seq (settingsAppend v loc))

theorem initConfig (loc : Loc) : Propagates (Fs.initConfig (κ := κ) loc) :=
  ((((((ev _).seq (ev _)).seq (ev _)).seq createIfMissing).seq createIfMissing).seq
    createIfMissing).seq createIfMissing

theorem migrateLayoutBody (v : LayoutVariant) : Propagates (Fs.migrateLayoutBody (κ := κ) v) := by
  have mv : ∀ d, Propagates (moveIfDir (κ := κ) d) := fun d => .ite (isDir · ⟨.top, d⟩) (ev _) .pure
  cases v
  · exact ((((ev _).seq (ev _)).seq (mv _)).seq (mv _)).seq writeFile
  · exact ((((ev _).seq (mv _)).seq (mv _)).seq (ev _)).seq writeFile

/-- `try: f except …` around a command that lets an `OSError` propagate: armed at `k` it completes as unarmed, or event `k` raised and
    the handler is entered in the state after `k` events with the in-flight file closed -/
theorem tryCatch {f : M κ → Res κ} (hf : Propagates f) {fs₀ : FS κ} {m : M κ} (hm : Tracks fs₀ m) (k : Nat) :
    ∃ m', Fs.tryCatch f m = (m', true) ∧ Tracks fs₀ m' ∧ m.hist <+: m'.hist ∧
      (Fs.tryCatch f (arm k m) = (arm k m', true) ∨
       ∃ q s, Fs.tryCatch f (arm k m) = (q, false) ∧ k < m'.n ∧ (snaps fs₀ m')[k]? = some s ∧ q.fs = flushed s.fs s.fl ∧ Quiet q) := by
  obtain ⟨m', e, t, p, -, a⟩ := hf fs₀ m k hm
  exact ⟨m', by simp only [Fs.tryCatch, e], t, p,
    a.imp (fun a => by simp only [Fs.tryCatch, a]) fun ⟨q, s, a, r⟩ => ⟨q, s, by simp only [Fs.tryCatch, a], r⟩⟩

/-- `f`, then `try: t except OSError: pass`, and nothing after it: armed at `k`, the tree that is left is a snapshot of the unarmed
    run (its last one, or the one after `k` events) with the in-flight file closed -/
theorem fault_closes {f t : M κ → Res κ} (hf : Propagates f) (ht : Propagates t) {fs₀ : FS κ} {m : M κ} (hm : Tracks fs₀ m)
    (k : Nat) :
    ∃ m₂, f m ⊳ tryLast t = .ok m₂ ∧
      ∃ (j : Nat) (s : Snap κ), (snaps fs₀ m₂)[j]? = some s ∧ (f (arm k m) ⊳ tryLast t).closed = flushed s.fs s.fl := by
  obtain ⟨m₁, e₁, t₁, -, -, a₁⟩ := hf fs₀ m k hm
  obtain ⟨m₂, e₂, t₂, p₂, a₂⟩ := ht.tryCatch t₁ k
  refine ⟨m₂, by simp only [e₁, Res.andThen, tryLast, e₂], ?_⟩
  rcases a₁ with a₁ | ⟨q, s, a₁, -, hs, hq, hl, -⟩
  · simp only [a₁, Res.andThen, tryLast, Res.closed, Res.m]
    rcases a₂ with a₂ | ⟨q, s, a₂, -, hs, hq, hl, -⟩
    · exact ⟨_, _, t₂.here, by rw [a₂]; rfl⟩
    · exact ⟨k, s, hs, by rw [a₂, hq, hl]; rfl⟩
  · exact ⟨k, s, snaps_of_prefix p₂ hs, by simp only [a₁, Res.andThen, Res.closed, Res.m, hq, hl, flushed]⟩

end Propagates

theorem crashAt_of_snap {v : Variants} {p : Prog} {fs : FS κ} {k : Nat} {s : Snap κ}
    (h : (snaps fs (complete v p fs))[k]? = some s) : crashAt v p fs k .full = flushed s.fs s.fl := by
  rw [crashAt, List.getD_eq_getElem?_getD, show snapshots v p fs = snaps fs (complete v p fs) from rfl, h, Option.getD_some,
    materialize_full]

/-- `tally init` with a fault armed at event `k`.  If it fires after the migration step (or there is none), `init_config` lets it
    propagate and the views append swallows it as the last step, so the tree that is left is a crash state of the undisturbed run with
    the in-flight file written out; so it is if it never fires.  If it fires inside the migration step, that step's handler swallows it,
    leaving such a crash state `q.fs` of the step, and `init` goes on from there unarmed.  (`loc` is the directory `runProg` hands to
    `cmdInit`.) -/
theorem init_fault_cases (v : Variants) {fs : FS κ} {loc : Loc}
    (hl : initLoc fs = loc) (k : Nat) :
    (∃ j, (faultAt v .init fs k).1 = crashAt v .init fs j .full) ∨
    (initMigrates loc fs = true ∧ ∃ q s, s ∈ snaps fs (migrateCsv v.csv loc (start fs)).1 ∧ q.fs = materialize .full s ∧ Quiet q ∧
      (faultAt v .init fs k).1 = (initConfig loc q ⊳ tryLast (viewsAppendBody loc)).closed) := by
  have e : ∀ o, (runProg v .init (start fs o)).1 =
      initConfig loc (if initMigrates loc fs then (migrateCsv v.csv loc (start fs o)).1 else start fs o)
        ⊳ tryLast (viewsAppendBody loc) :=
    fun o => (runProg_init v hl o).trans (cmdInit_eq v.csv loc (start fs o))
  -- the migration step, if there is one, ends in `m₁` whether the fault is armed or not (it has not fired)
  have closes : ∀ m₁, Tracks fs m₁ →
      (if initMigrates loc fs then (migrateCsv v.csv loc (start fs)).1 else start fs) = m₁ →
      (if initMigrates loc fs then (migrateCsv v.csv loc (start fs (some k))).1 else start fs (some k)) = arm k m₁ →
      ∃ j, (faultAt v .init fs k).1 = crashAt v .init fs j .full := by
    intro m₁ t₁ e₁ ek
    obtain ⟨m₂, e₂, j, s, hs, hc⟩ := (Propagates.initConfig loc).fault_closes (.viewsAppendBody loc) t₁ k
    obtain rfl : complete v .init fs = m₂ := by
      show (runProg v .init (start fs)).1.m = m₂
      rw [e, e₁, e₂]; rfl
    exact ⟨j, by rw [faultAt_fst, e, ek, hc, crashAt_of_snap hs]⟩
  cases hm : initMigrates loc fs with
  | false => exact .inl (closes (start fs) (.start fs) (by rw [hm]; rfl) (by rw [hm]; rfl))
  | true =>
    obtain ⟨m₁, e₁, t₁, -, a₁⟩ := (Propagates.migrateCsvBody v.csv loc).tryCatch (.start fs) k
    have e₁ : (migrateCsv v.csv loc (start fs)).1 = m₁ := congrArg Prod.fst e₁
    rcases a₁ with a₁ | ⟨q, s, a₁, -, hs, hq, quiet⟩
    · exact .inl (closes m₁ t₁ (by rw [hm, if_pos rfl, e₁]) (by rw [hm, if_pos rfl]; exact congrArg Prod.fst a₁))
    · refine .inr ⟨rfl, q, s, List.mem_of_getElem? (e₁ ▸ hs), hq.trans (materialize_full s).symm, quiet, ?_⟩
      rw [faultAt_fst, e, hm, if_pos rfl, show (migrateCsv v.csv loc (start fs (some k))).1 = q from congrArg Prod.fst a₁]

/-- the layout migration runs inside one `try` after which nothing happens: a fault leaves a crash state with the in-flight file
    written out -/
theorem layout_fault_closes (v : Variants) (fs : FS κ) (k : Nat) :
    ∃ j, (faultAt v .layout fs k).1 = crashAt v .layout fs j .full := by
  have e : ∀ o, (runProg v .layout (start fs o)).1 =
      if layoutMigrates fs then tryLast (migrateLayoutBody v.layout) (start fs o) else .ok (start fs o) :=
    fun o => cmdLayout_eq v.layout (start fs o)
  cases hm : layoutMigrates fs with
  | false =>
    have ec : complete v .layout fs = start fs := by simp only [complete, e, hm, Bool.false_eq_true, if_false, Res.m]
    refine ⟨0, ?_⟩
    rw [crashAt_of_snap (s := ⟨fs, none⟩) (by rw [ec]; rfl)]
    simp only [faultAt, e, hm, Bool.false_eq_true, if_false, Res.m]
    rfl
  | true =>
    obtain ⟨m₂, e₂, j, s, hs, hc⟩ := Propagates.pure.fault_closes (.migrateLayoutBody v.layout) (.start fs) k
    obtain rfl : complete v .layout fs = m₂ := by
      simp only [complete, e, hm, if_true]; exact congrArg Res.m e₂
    have ef : (faultAt v .layout fs k).1 = (Res.ok (arm k (start fs)) ⊳ tryLast (migrateLayoutBody v.layout)).closed := by
      simp only [faultAt, e, hm, if_true]; rfl
    exact ⟨j, by rw [ef, hc, crashAt_of_snap hs]⟩

/-- an `OSError` during `tally up --migrate`: either it never fired and the run is the undisturbed one, or event `k` raised and the
    migration's handler swallowed it: that leaves the crash state after `k` events with the in-flight file written out, and the run
    goes on to classify with the legacy CSV of that tree -/
theorem up_fault_cases (v : Variants) (fs : FS κ) (k : Nat) :
    faultAt v .upMigrate fs k =
        (crashAt v .upMigrate fs (numEvents v .upMigrate fs) .full, (runProg v .upMigrate (start fs)).2) ∨
    ∃ loc, upMigrates fs = some loc ∧ k < numEvents v .upMigrate fs ∧
      faultAt v .upMigrate fs k =
        (crashAt v .upMigrate fs k .full, .used (rulesNow (crashAt v .upMigrate fs k .full) ⟨loc, .csv⟩ true)) := by
  have eu : ∀ o, runProg v .upMigrate (start fs o) =
      (.ok (upRules v.csv true (start fs o)).1, (upRules v.csv true (start fs o)).2) := fun _ => rfl
  cases hm : upMigrates fs with
  | none =>
    refine .inl ?_
    rw [crashAt_of_no_event (complete_up_of_not_migrates v hm)]
    simp only [faultAt, eu, upRules_of_not_migrates (v := v.csv) hm (start fs (some k)) rfl, Res.m]
    rfl
  | some loc =>
    obtain ⟨m₁, e₀, t₁, -, a₁⟩ := (Propagates.migrateCsvBody v.csv loc).tryCatch (.start fs) k
    replace e₀ : migrateCsv v.csv loc (start fs) = (m₁, true) := e₀
    have ec : complete v .upMigrate fs = m₁ := by
      simp only [complete, eu, upRules_of_migrates (m := start fs) hm, e₀, if_true, Res.m]
    rcases a₁ with a₁ | ⟨q, s, a₁, hk, hs, hq, hl, -⟩
    · replace a₁ : migrateCsv v.csv loc (start fs (some k)) = (arm k m₁, true) := a₁
      refine .inl ?_
      rw [crashAt_of_snap (s := cur m₁) (by rw [numEvents, ec]; exact t₁.here)]
      simp only [faultAt, eu, upRules_of_migrates (m := start fs _) hm, a₁, e₀, if_true, Res.m]
      rfl
    · replace a₁ : migrateCsv v.csv loc (start fs (some k)) = (q, false) := a₁
      refine .inr ⟨loc, rfl, by rw [numEvents, ec]; exact hk, ?_⟩
      rw [crashAt_of_snap (ec ▸ hs)]
      simp only [faultAt, eu, upRules_of_migrates (m := start fs _) hm, a₁, Bool.false_eq_true, if_false, Res.m, hl, flushed, hq]

end TallyVerif.Fs
