import TallyVerif.Model.Report
import TallyVerif.Lemmas.Lists
/-! Lemmas about the report model (`Model/Report.lean`) for Props/C12, one section for each part of the model: `Json` (string
escaping, decoding, and the `<` repair of the embed), `MerchantIds` (`makeMerchantId` and the allocation table), `Replace`
(`str.replace` and the placeholder chain), `CategoryView` (the merchant dictionary and the per-category sums), `DateKeys` (the
`%Y-%m` keys).  They do not use one another; `MerchantIds` and `CategoryView` use list facts of Lemmas/Lists.

`Json` rests on one notion, `Spells c w`: `w` is an ASCII spelling of the scalar value `c` inside a JSON string literal.
`escChar` writes spellings, the decoder reads every spelling of `c` back as `c`, and the `<` repair of the embed maps spellings to
spellings; so any text made of spellings decodes (`decode_quoted`), before and after the repair.

The model's loops over merchants are `foldl`s that append; they are followed by `List.foldl_induction`, whose motive sees the state
together with the part of the list consumed so far. -/
namespace TallyVerif.Report

section Json

-- `Char.valid` with the bounds written out, as `omega` needs them
theorem char_range (c : Char) : c.toNat < 55296 ∨ (57343 < c.toNat ∧ c.toNat < 1114112) := c.valid

theorem char_eq_of_toNat {c d : Char} (h : c.toNat = d.toNat) : c = d := Char.toNat_inj.mp h

theorem toNat_ne_of_ne {c d : Char} (h : c ≠ d) : c.toNat ≠ d.toNat := fun h2 => h (char_eq_of_toNat h2)

theorem hexVal_hexDigit (d : Nat) : hexVal (hexDigit (d % 16)) = some (d % 16) :=
  (by decide : ∀ d, d < 16 → hexVal (hexDigit d) = some d) _ (Nat.mod_lt d (by decide))

theorem hexDigit_range : ∀ d, d < 16 → (48 ≤ (hexDigit d).toNat ∧ (hexDigit d).toNat ≤ 57) ∨
    (97 ≤ (hexDigit d).toNat ∧ (hexDigit d).toNat ≤ 102) := by decide

theorem parseHex4_hex4 {n : Nat} (h : n < 65536) (rest : List Char) :
    parseHex4 (hex4 n ++ rest) = some (n, rest) := by
  simp only [hex4, List.cons_append, List.nil_append, parseHex4, hexVal_hexDigit, Option.some.injEq, Prod.mk.injEq, and_true]
  -- the digits recombine in Horner form (`omega` on the four quotients at once is slow)
  have d2 : n / 256 = n / 16 / 16 := (Nat.div_div_eq_div_mul n 16 16).symm
  have d3 : n / 4096 = n / 16 / 16 / 16 := (Nat.div_div_eq_div_mul n 256 16).symm.trans (congrArg (· / 16) d2)
  rw [d3, d2, Nat.mod_eq_of_lt (d3 ▸ Nat.div_lt_of_lt_mul h : n / 16 / 16 / 16 < 16)]
  conv => rhs; rw [← Nat.div_add_mod' n 16, ← Nat.div_add_mod' (n / 16) 16, ← Nat.div_add_mod' (n / 16 / 16) 16]
  simp only [Nat.add_mul, Nat.mul_assoc]

/-- printable ASCII other than `<` -/
def Good (x : Char) : Prop := 32 ≤ x.toNat ∧ x.toNat ≤ 126 ∧ x ≠ '<'
instance (x : Char) : Decidable (Good x) := by unfold Good; infer_instance

/-- ESCAPE_DCT of json.encoder: (letter after the backslash, character it stands for) -/
def escapes : List (Char × Char) :=
  [('"', '"'), ('\\', '\\'), ('n', '\n'), ('r', '\r'), ('t', '\t'), ('b', '\x08'), ('f', '\x0c')]

theorem escapes_spec : ∀ p ∈ escapes, simpleEsc p.1 = some p.2 ∧ p.1 ≠ 'u' ∧ Good p.1 := by
  decide

/-- `w` is one of the ASCII spellings of the scalar value `c` inside a JSON string literal: a two-character escape,
the character itself, `\uXXXX`, or a surrogate pair -/
inductive Spells (c : Char) : List Char → Prop
  | simple (e : Char) : (e, c) ∈ escapes → Spells c ['\\', e]
  | plain : c ≠ '"' → c ≠ '\\' → 32 ≤ c.toNat → c.toNat ≤ 126 → Spells c [c]
  | u4 : c.toNat < 65536 → Spells c ('\\' :: 'u' :: hex4 c.toNat)
  | pair (hi lo : Nat) : 55296 ≤ hi ∧ hi ≤ 56319 → 56320 ≤ lo ∧ lo ≤ 57343 →
      65536 + ((hi - 55296) * 1024 + (lo - 56320)) = c.toNat →
      Spells c (('\\' :: 'u' :: hex4 hi) ++ ('\\' :: 'u' :: hex4 lo))

theorem escChar_spells (c : Char) : Spells c (escChar c) := by
  have hr := char_range c
  fun_cases escChar c with
  | case1 | case2 | case3 | case4 | case5 | case6 | case7 =>  -- `c` is one of the seven characters of `escapes`
    subst c; exact .simple _ (by decide)
  | case8 notQuote notBackslash _ _ _ _ _ printable => exact .plain notQuote notBackslash printable.1 printable.2
  | case9 _ _ _ _ _ _ _ _ hb => exact .u4 hb
  | case10 _ _ _ _ _ _ _ _ hb =>
    -- with `v = c.toNat - 65536`: the pair is `55296 + v / 1024`, `56320 + v % 1024`, and `v / 1024 * 1024 + v % 1024 = v`
    exact .pair _ _ (by omega) (by omega) (by
      rw [Nat.add_sub_cancel_left, Nat.add_sub_cancel_left, Nat.div_add_mod', Nat.add_sub_cancel' (Nat.le_of_not_lt hb)])

theorem Spells.dec {c : Char} {w : List Char} (h : Spells c w) (f : Nat) (rest : List Char) :
    decAux (f + 1) (w ++ rest) = (decAux f rest).map (c :: ·) := by
  have hr := char_range c
  have e1 : ('\\' : Char) ≠ '"' := by decide
  cases h with
  | simple e he =>
    obtain ⟨hs, hu, -⟩ := escapes_spec _ he
    simp only [List.cons_append, List.nil_append, decAux, e1, if_false, if_true, hu, hs]
  | plain h1 h2 h3 _ =>
    have : ¬ c.toNat < 32 := by omega
    simp only [List.cons_append, List.nil_append, decAux, h1, h2, this, if_false]
  | u4 hb =>
    have a : ¬ (55296 ≤ c.toNat ∧ c.toNat ≤ 56319) := by omega
    have b : ¬ (56320 ≤ c.toNat ∧ c.toNat ≤ 57343) := by omega
    simp only [List.cons_append, decAux, e1, if_false, if_true, parseHex4_hex4 hb, a, b, Char.ofNat_toNat]
  | pair hi lo h1 h2 e =>
    have p2 : parseLow ('\\' :: 'u' :: (hex4 lo ++ rest)) = some (lo, rest) := by
      simp only [parseLow, and_self, if_true, parseHex4_hex4 (by omega : lo < 65536), h2]
    simp only [List.cons_append, List.append_assoc, decAux, e1, if_false, if_true, parseHex4_hex4 (by omega : hi < 65536), h1, and_self, p2, e,
      Char.ofNat_toNat]

theorem Spells.ne_nil {c : Char} {w : List Char} (h : Spells c w) : w ≠ [] := by
  cases h <;> exact List.cons_ne_nil _ _

theorem decode_quoted (enc : Char → List Char) (henc : ∀ c, Spells c (enc c)) (s : List Char) :
    jsonDecodeStr ('"' :: (s.flatMap enc ++ ['"'])) = some s := by
  -- fuel: one unit per decoded character, and every spelling has at least one character
  suffices ∀ f, (s.flatMap enc ++ ['"']).length ≤ f → decAux f (s.flatMap enc ++ ['"']) = some s by
    simpa only [jsonDecodeStr, if_true] using this _ (Nat.le_succ _)
  induction s with
  | nil => intro f hf; match f, hf with | f + 1, _ => simp [decAux]
  | cons c t ih =>
    intro f hf
    have := List.length_pos_iff.mpr (henc c).ne_nil
    rw [List.flatMap_cons, List.append_assoc, List.length_append] at hf
    obtain ⟨f, rfl⟩ : ∃ g, f = g + 1 := ⟨f - 1, by omega⟩
    rw [List.flatMap_cons, List.append_assoc, (henc c).dec, ih f (Nat.le_of_lt_succ (Nat.lt_of_lt_of_le (Nat.lt_add_of_pos_left this) hf))]
    rfl

theorem hexDigit_good (d : Nat) : Good (hexDigit (d % 16)) :=
  (by decide : ∀ d, d < 16 → Good (hexDigit d)) _ (Nat.mod_lt d (by decide))

theorem u_good (n : Nat) : ∀ x ∈ '\\' :: 'u' :: hex4 n, Good x := by
  simp only [hex4, List.forall_mem_cons, List.not_mem_nil, false_imp_iff, implies_true, and_true]
  exact ⟨by decide, by decide, hexDigit_good _, hexDigit_good _, hexDigit_good _, hexDigit_good _⟩

theorem Spells.good {c : Char} {w : List Char} (h : Spells c w) :
    (w = [c] ∧ 32 ≤ c.toNat ∧ c.toNat ≤ 126) ∨ ∀ x ∈ w, Good x := by
  cases h with
  | simple e he =>
    right
    simp only [List.forall_mem_cons, List.not_mem_nil, false_imp_iff, implies_true, and_true]
    exact ⟨by decide, (escapes_spec _ he).2.2⟩
  | plain _ _ h3 h4 => exact .inl ⟨rfl, h3, h4⟩
  | u4 _ => exact .inr (u_good _)
  | pair _ _ _ _ _ => exact .inr fun x hx => (List.mem_append.mp hx).elim (u_good _ x) (u_good _ x)

theorem embedRepaired_no_lt (t : List Char) : '<' ∉ embedRepaired t := fun h => by
  obtain ⟨c, -, hc⟩ := List.mem_flatMap.mp h
  split at hc
  · revert hc; decide
  · next hne => exact hne (List.mem_singleton.mp hc).symm

theorem endTagAt_lt {t : List Char} (h : endTagAt t = true) : '<' ∈ t := by
  match t, h with
  | a :: b :: s :: c :: r :: i :: p :: t :: e :: _, h =>
    -- the first of the nine tests is `a = '<'`
    simp only [endTagAt, Bool.and_eq_true, decide_eq_true_eq, and_assoc] at h
    exact h.1 ▸ List.mem_cons_self

theorem scriptDataEnds_lt {t : List Char} (h : scriptDataEnds t = true) : '<' ∈ t := by
  fun_induction scriptDataEnds t with
  | case1 => simp at h
  | case2 c rest ih =>
    rcases Bool.or_eq_true _ _ ▸ h with h | h
    · exact endTagAt_lt h
    · exact List.mem_cons_of_mem _ (ih h)

theorem embedRepaired_id {t : List Char} (h : '<' ∉ t) : embedRepaired t = t := by
  induction t with
  | nil => rfl
  | cons c t ih =>
    rw [List.mem_cons, not_or] at h
    rw [embedRepaired, List.flatMap_cons, if_neg (Ne.symm h.1), ← embedRepaired, ih h.2]; rfl

theorem Spells.embed {c : Char} {w : List Char} (h : Spells c w) : Spells c (embedRepaired w) := by
  rcases h.good with ⟨rfl, -⟩ | hg
  · by_cases hc : c = '<'
    · subst hc; exact .u4 (by decide)
    · rw [embedRepaired_id (by simpa using Ne.symm hc)]; exact h
  · rw [embedRepaired_id fun hm => (hg _ hm).2.2 rfl]; exact h

end Json

section MerchantIds

/-- reads an id back as the name it was made from, when that name has no quotes and no underscores -/
def unId (c : Char) : Char := if c = '_' then ' ' else c

theorem unId_makeMerchantId {s : List Char} (h : idSafe s = true) : (makeMerchantId s).map unId = s := by
  simp only [idSafe, List.all_eq_true, Bool.and_eq_true, decide_eq_true_eq] at h
  have h1 : s.filter (· ≠ '\'') = s := List.filter_eq_self.mpr fun c hc => decide_eq_true (h c hc).1.1
  have h2 : s.filter (· ≠ '"') = s := List.filter_eq_self.mpr fun c hc => decide_eq_true (h c hc).1.2
  rw [makeMerchantId, h1, h2, List.map_map]
  refine (List.map_congr_left fun c hc => ?_).trans (List.map_id s)
  dsimp only [Function.comp_apply, id]
  split
  · next e => exact e ▸ if_pos rfl
  · exact if_neg (h c hc).2

theorem toDigits_ten_inj {a b : Nat} (h : Nat.toDigits 10 a = Nat.toDigits 10 b) : a = b := by
  have := congrArg (fun l => Nat.ofDigitChars 10 l 0) h
  simpa [Nat.ofDigitChars_ten_toDigits] using this

theorem idCandidate_inj (base : List Char) {a b : Nat} (ha : 1 ≤ a) (hb : 1 ≤ b)
    (h : idCandidate base a = idCandidate base b) : a = b := by
  unfold idCandidate at h
  split at h <;> split at h
  · omega
  · exact nomatch List.self_eq_append_right.mp h  -- the bare base against a suffixed one
  · exact nomatch List.append_right_eq_self.mp h
  · -- two suffixes: the digits agree
    have h' := List.append_cancel_left h
    simp only [List.cons.injEq, true_and] at h'
    exact toDigits_ten_inj h'

theorem firstFree_spec (used : List (List Char)) (base : List Char) (fuel n : Nat) :
    ∃ k, n ≤ k ∧ firstFree used base fuel n = idCandidate base k ∧
      (∀ j, n ≤ j → j < k → idCandidate base j ∈ used) ∧ (k < n + fuel → idCandidate base k ∉ used) := by
  fun_induction firstFree used base fuel n with
  | case1 n => exact ⟨n, Nat.le_refl _, rfl, fun j h1 h2 => by omega, fun h => by omega⟩  -- out of fuel
  | case2 fuel n hm ih =>  -- candidate `n` is taken: the loop goes on
    obtain ⟨k, hnk, heq, htaken, hfree⟩ := ih
    refine ⟨k, by omega, heq, fun j hj hk => ?_, fun h => hfree (by omega)⟩
    by_cases e : j = n
    · subst e; exact hm
    · exact htaken j (by omega) hk
  | case3 fuel n hm => exact ⟨n, Nat.le_refl _, rfl, fun j h1 h2 => by omega, fun _ => hm⟩  -- candidate `n` is free

theorem firstFree_least (used : List (List Char)) (base : List Char) :
    ∃ k, 1 ≤ k ∧ firstFree used base used.length 1 = idCandidate base k ∧
      (∀ j, 1 ≤ j → j < k → idCandidate base j ∈ used) ∧ idCandidate base k ∉ used := by
  obtain ⟨k, h1k, heq, htaken, hfree⟩ := firstFree_spec used base used.length 1
  refine ⟨k, h1k, heq, htaken, fun hk => ?_⟩
  -- pigeonhole: were candidate `k` taken too, candidates `1 … k` would be `k` distinct members of `used`, so the loop had fuel left
  have hnd : ((List.range k).map fun j => idCandidate base (j + 1)).Nodup :=
    List.pairwise_lt_range.map _ fun a b hab e => by
      have := idCandidate_inj base (Nat.succ_pos a) (Nat.succ_pos b) e; omega
  have hsub : ((List.range k).map fun j => idCandidate base (j + 1)) ⊆ used := by
    intro x hx
    obtain ⟨j, hj, rfl⟩ := List.mem_map.mp hx
    have hj := List.mem_range.mp hj
    by_cases e : j + 1 = k
    · exact e ▸ hk
    · exact htaken _ (by omega) (by omega)
  have := hnd.length_le_of_subset hsub
  rw [List.length_map, List.length_range] at this
  exact hfree (by omega) hk

theorem firstFree_not_mem (used : List (List Char)) (base : List Char) :
    firstFree used base used.length 1 ∉ used := by
  obtain ⟨k, -, h, -, hk⟩ := firstFree_least used base
  rw [h]; exact hk

theorem allocOne_keys (tbl : IdTable) (name : List Char) :
    (allocOne tbl name).map (·.1) = if (tbl.map (·.1)).contains name then tbl.map (·.1) else tbl.map (·.1) ++ [name] := by
  fun_cases allocOne tbl name <;> simp [*]

theorem mem_keys_allocOne (tbl : IdTable) (name x : List Char) :
    x ∈ (allocOne tbl name).map (·.1) ↔ x ∈ tbl.map (·.1) ∨ x = name := by
  rw [allocOne_keys]; exact List.mem_addIfNew

/-- invariant of the table: no two names share an id, no name occurs twice -/
def TableOk (tbl : IdTable) : Prop := (tbl.map (·.2)).Nodup ∧ (tbl.map (·.1)).Nodup

theorem allocOne_ok (tbl : IdTable) (name : List Char) (h : TableOk tbl) : TableOk (allocOne tbl name) := by
  fun_cases allocOne tbl name with
  | case1 => exact h
  | case2 hn =>
    have hfree := firstFree_not_mem (tbl.map (·.2)) (makeMerchantId name)
    rw [List.length_map] at hfree
    simp only [TableOk, List.map_append, List.map_cons, List.map_nil, List.nodup_concat]
    exact ⟨⟨h.1, hfree⟩, h.2, hn⟩

end MerchantIds

section Replace

theorem replaceGo_drop (pat rep : List Char) : ∀ (l : List Char) (n : Nat),
    replaceGo pat rep l n = replaceGo pat rep (l.drop n) 0
  | [], n => by simp [replaceGo]
  | _ :: _, 0 => by simp
  | _ :: rest, n + 1 => by simp only [replaceGo, List.drop_succ_cons]; exact replaceGo_drop pat rep rest n

theorem replaceGo_findAt (pat rep : List Char) (hp : 1 ≤ pat.length) (hay : List Char) :
    replaceGo pat rep hay 0 = match findAt pat hay with
      | none => hay
      | some k => hay.take k ++ rep ++ replaceGo pat rep (hay.drop (k + pat.length)) 0 := by
  fun_induction findAt pat hay with
  | case1 he => exact absurd he (by simp [List.isEmpty_eq_false_iff.mpr (List.length_pos_iff.mp hp)])  -- empty pattern
  | case2 => rfl  -- end of text
  | case3 c rest hpre =>  -- match here
    obtain ⟨m, hm⟩ : ∃ m, pat.length = m + 1 := ⟨pat.length - 1, by omega⟩
    simp only [replaceGo, hpre, if_true, List.take_zero, List.nil_append, Nat.zero_add]
    rw [replaceGo_drop, hm]; simp
  | case4 c rest hpre ih =>  -- no match here: `c` is copied
    simp only [replaceGo, hpre, Bool.false_eq_true, if_false, ih]
    cases findAt pat rest with
    | none => rfl
    | some k => simp [show k + 1 + pat.length = k + pat.length + 1 by omega]

theorem splice_nil (t : List Char) : splice [] t = t := rfl

theorem splice_cons (p r : List Char) (steps : List (List Char × List Char)) (t : List Char) :
    splice ((p, r) :: steps) t = splice steps (replaceAll p r t) := rfl

end Replace

section CategoryView

theorem idsDistinct_iff (rows : List MRow) : idsDistinct rows = true ↔ (rows.map (·.id)).Nodup := by
  fun_induction idsDistinct rows with
  | case1 => simp
  | case2 r rest ih =>
    simp only [List.map_cons, List.nodup_cons, Bool.and_eq_true, List.all_eq_true, decide_eq_true_eq, ih, List.mem_map,
      not_exists, not_and]

theorem dictSet_fresh {d : List (List Char × MRow)} {k : List Char} {v : MRow} (h : k ∉ d.map (·.1)) :
    dictSet d k v = d ++ [(k, v)] := by
  fun_induction dictSet d k v with
  | case1 => rfl
  | case2 v' rest => exact absurd List.mem_cons_self h  -- `k` is the first key
  | case3 k' v' rest hk ih => rw [ih fun hm => h (List.mem_cons_of_mem _ hm)]; rfl

theorem allMerchants_distinct {rows : List MRow} (h : (rows.map (·.id)).Nodup) :
    allMerchants rows = rows.map fun r => (r.id, r) := by
  refine List.foldl_induction (fun d r => dictSet d r.id r) [] (fun l d => (l.map (·.id)).Nodup → d = l.map fun r => (r.id, r))
    (fun _ => rfl) (fun l a d ih h => ?_) rows h
  simp only [List.map_append, List.map_cons, List.map_nil, List.nodup_concat] at h
  rw [ih h.1, List.map_append]
  exact dictSet_fresh (by rw [List.map_map]; exact h.2)

theorem addTo_sum (acc : List (List Char × Int)) (k : List Char) (v : Int) :
    ((addTo acc k v).map (·.2)).sum = (acc.map (·.2)).sum + v := by
  fun_induction addTo acc k v with
  | case1 => simp
  | case2 => simp only [List.map_cons, List.sum_cons]; omega
  | case3 _ _ _ _ ih => simp only [List.map_cons, List.sum_cons, ih]; omega

end CategoryView

section DateKeys

theorem eq_of_digits {a b : Nat} (hq : a / 10 = b / 10) (hr : dch (a % 10) = dch (b % 10)) : a = b := by
  have val : ∀ d, d < 10 → (dch d).toNat - 48 = d := by decide
  rw [← Nat.div_add_mod a 10, ← Nat.div_add_mod b 10, hq, ← val _ (Nat.mod_lt a (by decide)), hr, val _ (Nat.mod_lt b (by decide))]

theorem pad2_inj {m m' : Nat} (hm : m < 100) (hm' : m' < 100) (h : pad2 m = pad2 m') : m = m' := by
  simp only [pad2, List.cons.injEq, and_true] at h
  refine eq_of_digits (eq_of_digits ?_ h.1) h.2
  rw [Nat.div_eq_of_lt (Nat.div_lt_of_lt_mul hm), Nat.div_eq_of_lt (Nat.div_lt_of_lt_mul hm')]

theorem pad4_inj {y y' : Nat} (hy : y < 10000) (hy' : y' < 10000) (h : pad4 y = pad4 y') : y = y' := by
  have d2 (n : Nat) : n / 100 = n / 10 / 10 := (Nat.div_div_eq_div_mul n 10 10).symm
  have d3 (n : Nat) : n / 1000 = n / 10 / 10 / 10 := (Nat.div_div_eq_div_mul n 100 10).symm.trans (congrArg (· / 10) (d2 n))
  simp only [pad4, d2, d3, List.cons.injEq, and_true] at h
  obtain ⟨h1000, h100, h10, h1⟩ := h
  refine eq_of_digits (eq_of_digits (eq_of_digits (eq_of_digits ?_ h1000) h100) h10) h1
  rw [← d3, ← d3, Nat.div_eq_of_lt (Nat.div_lt_of_lt_mul hy), Nat.div_eq_of_lt (Nat.div_lt_of_lt_mul hy')]

end DateKeys

end TallyVerif.Report
