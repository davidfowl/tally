import TallyVerif.Model.Rules
import TallyVerif.Lemmas.Lists
/-!
Lemmas about the rule-list algorithms.

`Key.lt` is a lexicographic order and is treated one level `x < y ∨ x = y ∧ rest` at a time (`lex_trans`,
`lex_total`).  Python's `max` keeps the first maximum of what it has seen (`FirstMax.snoc`).  Both rule loops (`runLoop` of the
engine, the fold of `lstep` in `legacy`) ignore non-matching rules and record the first categorising one
(`List.foldl_filter_of_skip`, `List.foldl_first` of Lemmas/Lists).  The engine's loop appends a tag unless it is there already,
which is what `dedupe` does at the end of a list (`dedupe_snoc`), so its tag list is `dedupe` of the hits' tags in order
(`runLoop_tags`); the legacy loop concatenates them (`lfold_allTags`) and `legacy` applies `dedupe` once at the end.
-/
namespace TallyVerif.Rules

theorem lex_trans {α : Type} [LT α] (tr : ∀ {x y z : α}, x < y → y < z → x < z) {a b c : α}
    {R₁ R₂ R₃ : Prop} (hR : R₁ → R₂ → R₃) :
    (a < b ∨ a = b ∧ R₁) → (b < c ∨ b = c ∧ R₂) → (a < c ∨ a = c ∧ R₃) := by
  rintro (h | ⟨rfl, r₁⟩) (h' | ⟨rfl, r₂⟩)
  · exact Or.inl (tr h h')
  · exact Or.inl h
  · exact Or.inl h'
  · exact Or.inr ⟨rfl, hR r₁ r₂⟩

theorem lex_total {α : Type} [LT α] {a b : α} {R E R' : Prop} (tri : a < b ∨ a = b ∨ b < a)
    (hR : R ∨ E ∨ R') :
    (a < b ∨ a = b ∧ R) ∨ (a = b ∧ E) ∨ (b < a ∨ b = a ∧ R') := by
  rcases tri with h | rfl | h
  · exact Or.inl (Or.inl h)
  · rcases hR with r | e | r
    · exact Or.inl (Or.inr ⟨rfl, r⟩)
    · exact Or.inr (Or.inl ⟨rfl, e⟩)
    · exact Or.inr (Or.inr (Or.inr ⟨rfl, r⟩))
  · exact Or.inr (Or.inr (Or.inl h))

theorem Key.lt_iff (a b : Key) :
    a.lt b = true ↔
      a.prio < b.prio ∨ (a.prio = b.prio ∧ (a.pats < b.pats ∨ (a.pats = b.pats ∧
        (a.kinds < b.kinds ∨ (a.kinds = b.kinds ∧ a.len < b.len))))) := by
  unfold Key.lt
  by_cases h1 : a.prio = b.prio
  · by_cases h2 : a.pats = b.pats
    · by_cases h3 : a.kinds = b.kinds
      · simp [h1, h2, h3]
      · simp [h1, h2, h3]
    · simp [h1, h2]
  · simp [h1]

theorem Key.lt_irrefl (a : Key) : a.lt a = false := by simp [Key.lt]

theorem Key.lt_trans {a b c : Key} (h1 : a.lt b = true) (h2 : b.lt c = true) : a.lt c = true := by
  rw [Key.lt_iff] at *
  exact lex_trans Int.lt_trans (lex_trans Nat.lt_trans (lex_trans Nat.lt_trans Nat.lt_trans)) h1 h2

theorem Key.trichotomy (a b : Key) : a.lt b = true ∨ a = b ∨ b.lt a = true := by
  rw [Key.lt_iff, Key.lt_iff]
  rcases lex_total (Int.lt_trichotomy a.prio b.prio) (lex_total (Nat.lt_trichotomy a.pats b.pats)
    (lex_total (Nat.lt_trichotomy a.kinds b.kinds) (Nat.lt_trichotomy a.len b.len))) with h | ⟨e1, e2, e3, e4⟩ | h
  · exact Or.inl h
  · cases a; cases b; cases e1; cases e2; cases e3; cases e4; exact Or.inr (Or.inl rfl)
  · exact Or.inr (Or.inr h)

theorem Key.lt_asymm {a b : Key} (h : a.lt b = true) : b.lt a = false := by
  cases h' : b.lt a
  · rfl
  · have := Key.lt_trans h h'; rw [Key.lt_irrefl] at this; cases this

theorem Key.lt_cotrans {a c : Key} (b : Key) (h : a.lt c = true) : a.lt b = true ∨ b.lt c = true := by
  rcases Key.trichotomy a b with h' | rfl | h'
  · exact Or.inl h'
  · exact Or.inr h
  · exact Or.inr (Key.lt_trans h' h)

/-- `w` is the first maximal element of `xs`: everything before it is strictly smaller,
nothing after it is strictly greater. -/
def FirstMax {α : Type} (key : α → Key) (xs : List α) (w : α) : Prop :=
  ∃ pre post, xs = pre ++ w :: post ∧ (∀ x ∈ pre, (key x).lt (key w) = true) ∧
    (∀ x ∈ post, (key w).lt (key x) = false)

theorem FirstMax.mem {α : Type} {key : α → Key} {xs : List α} {w : α} (h : FirstMax key xs w) : w ∈ xs := by
  obtain ⟨pre, post, e, -, -⟩ := h; subst e; simp

theorem FirstMax.maximal {α : Type} {key : α → Key} {xs : List α} {w : α} (h : FirstMax key xs w) :
    ∀ x ∈ xs, (key w).lt (key x) = false := by
  obtain ⟨pre, post, e, h1, h2⟩ := h
  subst e
  intro x hx
  simp only [List.mem_append, List.mem_cons] at hx
  rcases hx with hx | hx | hx
  · exact Key.lt_asymm (h1 x hx)
  · subst hx; exact Key.lt_irrefl _
  · exact h2 x hx

theorem FirstMax.snoc {α : Type} {key : α → Key} {xs : List α} {b : α} (h : FirstMax key xs b) (x : α) :
    FirstMax key (xs ++ [x]) (if (key b).lt (key x) then x else b) := by
  obtain ⟨pre, post, rfl, h1, h2⟩ := h
  split
  next hx =>   -- `x` outranks `b`: all of `xs` is strictly below `x`
    refine ⟨pre ++ b :: post, [], rfl, fun y hy => ?_, nofun⟩
    rcases List.mem_append.mp hy with hy | hy
    · exact Key.lt_trans (h1 y hy) hx
    · rcases List.mem_cons.mp hy with rfl | hy
      · exact hx
      · exact (Key.lt_cotrans (key y) hx).resolve_left (by simp [h2 y hy])
  next hx =>   -- `b` stays, `x` joins what comes after it
    refine ⟨pre, post ++ [x], by simp, h1, fun y hy => ?_⟩
    rcases List.mem_append.mp hy with hy | hy
    · exact h2 y hy
    · rw [List.mem_singleton.mp hy]; simpa using hx

theorem pyMaxFrom_spec {α : Type} (key : α → Key) (xs seen : List α) (best : α) (h : FirstMax key seen best) :
    FirstMax key (seen ++ xs) (pyMaxFrom key best xs) := by
  fun_induction pyMaxFrom key best xs generalizing seen with
  | case1 => simpa using h
  | case2 best x xs ih => simpa using ih _ (h.snoc x)

theorem pyMax_spec {α : Type} {key : α → Key} {xs : List α} {w : α} (h : pyMax key xs = some w) :
    FirstMax key xs w := by
  cases xs with
  | nil => simp [pyMax] at h
  | cons x xs =>
    cases h
    exact pyMaxFrom_spec key xs [x] x ⟨[], [], rfl, nofun, nofun⟩

theorem pyMax_none {α : Type} {key : α → Key} {xs : List α} : pyMax key xs = none ↔ xs = [] := by
  cases xs <;> simp [pyMax]

theorem pyMax_perm {α : Type} {key : α → Key} {xs ys : List α} (p : xs.Perm ys)
    (inj : ∀ a ∈ xs, ∀ b ∈ xs, key a = key b → a = b) : pyMax key xs = pyMax key ys := by
  cases hx : pyMax key xs with
  | none => rw [pyMax_none.mp hx] at p; rw [← p.nil_eq]; rfl
  | some w =>
    cases hy : pyMax key ys with
    | none => rw [pyMax_none.mp hy] at p; rw [p.eq_nil] at hx; cases hx
    | some w' =>
      have fw := pyMax_spec hx
      have fw' := pyMax_spec hy
      have hw' : w' ∈ xs := p.symm.subset fw'.mem
      rcases Key.trichotomy (key w) (key w') with h | h | h
      · rw [fw.maximal w' hw'] at h; cases h
      · rw [inj w fw.mem w' hw' h]
      · rw [fw'.maximal w (p.subset fw.mem)] at h; cases h

theorem pyMax_filter_spec {α : Type} {key : α → Key} {p q : α → Bool} {xs : List α} {w : α}
    (h : pyMax key ((xs.filter p).filter q) = some w) :
    w ∈ xs ∧ p w = true ∧ q w = true ∧ ∀ x ∈ xs, p x = true → q x = true → (key w).lt (key x) = false := by
  have fm := pyMax_spec h
  have hm := fm.mem
  simp only [List.mem_filter] at hm
  exact ⟨hm.1.1, hm.1.2, hm.2, fun x hx h1 h2 => fm.maximal x (by simp [List.mem_filter, hx, h1, h2])⟩

theorem loopStep_nohit (ev : Rule → Eval) (s : Loop) (r : Rule) (h : (ev r).hit = false) :
    loopStep ev s r = s := by simp [loopStep, h]

theorem runLoop_filter (ev : Rule → Eval) (rs : List Rule) :
    runLoop ev (rs.filter (fun r => (ev r).hit)) = runLoop ev rs :=
  List.foldl_filter_of_skip (loopStep_nohit ev) rs loopInit

theorem runLoop_firstCat (ev : Rule → Eval) (rs : List Rule) :
    (runLoop ev rs).firstCat = rs.find? (fun r => (ev r).hit && r.isCat) := by
  refine List.foldl_first (p := fun r => (ev r).hit && r.isCat) (first := Loop.firstCat) (fun s r => ?_) rs loopInit
  fun_cases loopStep ev s r with
  | case1 hit tags src e => cases s.firstCat <;> simp [hit]   -- a hit is recorded only while `firstCat` is empty
  | case2 nohit => simp [nohit]

theorem runLoop_matching (ev : Rule → Eval) (rs : List Rule) :
    (runLoop ev rs).matching = rs.filter (fun r => (ev r).hit) := by
  refine List.foldl_induction (loopStep ev) loopInit (fun l s => s.matching = l.filter fun r => (ev r).hit) rfl
    (fun l r s ih => ?_) rs
  fun_cases loopStep ev s r <;> simp [*]

theorem mem_dedupe {xs : List String} {t : String} : t ∈ dedupe xs ↔ t ∈ xs := by
  induction xs with
  | nil => simp [dedupe]
  | cons x xs ih =>
    by_cases e : t = x <;> simp [dedupe, ih, e]

theorem dedupe_nodup (xs : List String) : (dedupe xs).Nodup := by
  induction xs with
  | nil => simp [dedupe]
  | cons x xs ih =>
    exact List.nodup_cons.mpr ⟨by simp, ih.sublist List.filter_sublist⟩

theorem dedupe_snoc (xs : List String) (t : String) :
    dedupe (xs ++ [t]) = if (dedupe xs).contains t then dedupe xs else dedupe xs ++ [t] := by
  induction xs with
  | nil => rfl
  | cons x xs ih =>
    rw [List.cons_append, dedupe, ih, dedupe]
    by_cases h : t ∈ dedupe xs
    · simp [h]
    · by_cases e : t = x
      · subst e; simp [h]   -- appended below `x`, and filtered out again
      · simp [h, e]

/-- `addTags` is `dedupe_snoc`, tag by tag. -/
theorem addTags_fst (r : Rule) (ts seen : List String) (src : List (String × Rule)) :
    (addTags r ts (dedupe seen, src)).1 = dedupe (seen ++ ts) := by
  induction ts generalizing seen src with
  | nil => simp [addTags]
  | cons t ts ih =>
    rw [addTags, List.append_cons seen t ts]
    split
    · next h => rw [← ih (seen ++ [t]) src, dedupe_snoc, if_pos h]
    · next h => rw [← ih (seen ++ [t]), dedupe_snoc, if_neg h]

theorem runLoop_tags (ev : Rule → Eval) (rs : List Rule) :
    (runLoop ev rs).tags = dedupe ((rs.filter (fun r => (ev r).hit)).flatMap (fun r => (ev r).tags)) := by
  refine List.foldl_induction (loopStep ev) loopInit
    (fun l s => s.tags = dedupe ((l.filter fun r => (ev r).hit).flatMap fun r => (ev r).tags)) rfl (fun l r s ih => ?_) rs
  rw [List.filter_append, List.flatMap_append]
  fun_cases loopStep ev s r with
  | case1 hit tags src e =>
    rw [List.filter_cons_of_pos (p := fun r => (ev r).hit) hit, List.filter_nil, List.flatMap_singleton,
      ← addTags_fst r _ _ s.tagSources, ← ih, e]
  | case2 nohit => rw [List.filter_cons_of_neg (p := fun r => (ev r).hit) nohit, List.filter_nil, List.flatMap_nil, List.append_nil, ih]

theorem finish_mostSpecific (fix : Bool) (key : Rule → Key) (ev : Rule → Eval) (s : Loop) :
    finish fix key ev .mostSpecific s =
      { matched := (pyMax key (s.matching.filter Rule.isCat)).isSome
        merchant := ((pyMax key (s.matching.filter fun r => r.hasMerchant && (!fix || r.isCat))).map Rule.merchant).getD ""
        category := ((pyMax key (s.matching.filter Rule.isCat)).map Rule.category).getD ""
        subcategory := ((pyMax key (s.matching.filter Rule.hasSub)).map Rule.subcategory).getD ""
        tags := s.tags
        matchedRule := pyMax key (s.matching.filter Rule.isCat)
        merchantRule := pyMax key (s.matching.filter fun r => r.hasMerchant && (!fix || r.isCat))
        subcategoryRule := pyMax key (s.matching.filter Rule.hasSub)
        allMatching := s.matching
        tagRules := s.matching
        extraFields := ((pyMax key (s.matching.filter Rule.isCat)).map fun w => (ev w).fields).getD []
        tagSources := s.tagSources } := by
  simp only [finish]
  cases pyMax key (List.filter (fun r => r.hasMerchant && (!fix || r.isCat)) s.matching) <;>
    cases pyMax key (List.filter Rule.isCat s.matching) <;>
    cases pyMax key (List.filter Rule.hasSub s.matching) <;> rfl

theorem finish_tags (fix : Bool) (key : Rule → Key) (ev : Rule → Eval) (mode : Mode) (s : Loop) :
    (finish fix key ev mode s).tags = s.tags := by
  cases mode
  · simp only [finish]; cases s.firstCat <;> rfl
  · rw [finish_mostSpecific]

section Legacy
variable (ev : LRule → LEval)

theorem lstep_nomatch (s : LLoop) (r : LRule) (h : ((ev r).outcome == .matched) = false) : lstep ev s r = s := by
  fun_cases lstep ev s r with
  | case1 hm => rw [hm] at h; cases h
  | case2 => rfl

theorem lfold_first (rs : List LRule) (s : LLoop) :
    (rs.foldl (lstep ev) s).first =
      s.first.or (rs.find? fun r => (ev r).outcome == .matched && r.category != "") := by
  refine List.foldl_first (first := LLoop.first) (fun s r => ?_) rs s
  cases hm : (ev r).outcome == .matched
  · rw [lstep_nomatch ev s r hm]; simp
  · rw [lstep, beq_iff_eq.mp hm]   -- matched: `first` is set only while empty, and only by a rule with a category
    cases s.first <;> simp

theorem lfold_allTags (rs : List LRule) (s : LLoop) :
    (rs.foldl (lstep ev) s).allTags =
      s.allTags ++ (rs.filter (fun r => (ev r).outcome == .matched)).flatMap (fun r => (ev r).tags) := by
  induction rs generalizing s with
  | nil => simp
  | cons r rs ih =>
    rw [List.foldl_cons, ih]
    cases hm : (ev r).outcome == .matched
    · rw [lstep_nomatch ev s r hm]; simp [hm]
    · rw [lstep, beq_iff_eq.mp hm]; simp [hm]

end Legacy

end TallyVerif.Rules
