import TallyVerif.Lemmas.ExprUnfold
/-! The mutable `_scope` dictionary (an association list) and the comprehension loop `loopItems` over it, from a
scope in which the binder is unbound. -/
namespace TallyVerif.Expr
open TallyVerif.Py

theorem getScope_apply (s : Scope) : getScope s = (.ok s, s) := rfl

theorem setVar_ok (k : String) (v : Val) (s : Scope) : setVar k v s = (.ok (), (setVar k v s).2) := rfl

theorem lookup_append_fresh {s : Scope} {x : String} {v : Val} (h : s.lookup x = none) :
    (s ++ [(x, v)]).lookup x = some v := by
  simp [List.lookup_append, h]

theorem setVar_fresh {s : Scope} {x : String} {v : Val} (h : s.lookup x = none) :
    setVar x v s = (.ok (), s ++ [(x, v)]) := by
  simp [setVar, h]

theorem delVar_after_fresh {s : Scope} {x : String} {v : Val} (h : s.lookup x = none) :
    delVar x (s ++ [(x, v)]) = (.ok (), s) := by
  have hs : s.filter (fun kv => kv.1 != x) = s :=
    List.filter_eq_self.mpr fun kv hkv => by rw [bne_comm]; exact List.lookup_eq_none_iff.mp h kv hkv
  simp [delVar, List.filter_append, hs]

theorem loopItems_cons_fresh {x : String} {cond : M Bool} {body : Acc → M (Step Acc)} {it : Val} {rest : List Val} {acc : Acc}
    {s : Scope} {ok : Bool} {st : Step Acc} (hx : s.lookup x = none)
    (hcond : cond (s ++ [(x, it)]) = (.ok ok, s ++ [(x, it)]))
    (hbody : (if ok then body acc else pure (Step.more acc)) (s ++ [(x, it)]) = (.ok st, s ++ [(x, it)])) :
    loopItems x cond body (it :: rest) acc s =
      (match (generalizing := false) st with
       | .done b => (.ok (.done b), s ++ [(x, it)])
       | .more b => loopItems x cond body rest b s) := by
  -- `do` has copied the rest of the iteration into both branches of `if ok`: `← ite_bind` takes it out again, as `hbody` has it
  rw [loopItems, bind_ok (getScope_apply s), bind_ok (setVar_fresh hx), bind_ok hcond, ← ite_bind, bind_ok hbody]
  cases st with
  | done b => rfl
  | more b => simp only [hx]; rw [bind_ok (delVar_after_fresh hx)]

/-- `c` is what the condition gives on an item and `g` what the body does to the accumulator on an item that passes, neither
touching the scope: the loop is the fold of `g` over the items that pass, and `x` is unbound again at the end -/
theorem loopItems_quiet (x : String) (cond : M Bool) (body : Acc → M (Step Acc)) (c : Val → Bool) (g : Val → Acc → Acc)
    (items : List Val) (s : Scope) (acc : Acc) (hx : s.lookup x = none)
    (hcond : ∀ it ∈ items, cond (s ++ [(x, it)]) = (.ok (c it), s ++ [(x, it)]))
    (hbody : ∀ it ∈ items, c it = true → ∀ a, body a (s ++ [(x, it)]) = (.ok (.more (g it a)), s ++ [(x, it)])) :
    loopItems x cond body items acc s = (.ok (.more ((items.filter c).foldl (fun a it => g it a) acc)), s) := by
  induction items generalizing acc with
  | nil => rfl
  | cons it rest ih =>
    have hb : (if c it then body acc else pure (Step.more acc)) (s ++ [(x, it)]) =
        (.ok (.more (if c it then g it acc else acc)), s ++ [(x, it)]) := by
      cases h : c it
      · rfl
      · exact hbody it (List.mem_cons_self ..) h acc
    rw [loopItems_cons_fresh hx (hcond it (List.mem_cons_self ..)) hb]
    dsimp only
    rw [ih _ (fun i hi => hcond i (List.mem_cons_of_mem _ hi)) (fun i hi => hbody i (List.mem_cons_of_mem _ hi)), List.filter_cons]
    cases c it <;> rfl

/-- `any()` stops pulling at the first hit, and the binder stays BOUND to it: a suspended generator never restores -/
theorem loopItems_any (x : String) (body : Acc → M (Step Acc)) (p : Val → Bool) (items : List Val) (s : Scope) (acc : Acc)
    (hx : s.lookup x = none)
    (hbody : ∀ it ∈ items, ∀ a, body a (s ++ [(x, it)]) =
      (.ok (if p it then .done { a with cur := .bool true } else .more a), s ++ [(x, it)])) :
    loopItems x (pure true) body items acc s =
      (.ok (if items.any p then .done { acc with cur := .bool true } else .more acc),
       match items.find? p with
       | some it => s ++ [(x, it)]
       | none => s) := by
  induction items with
  | nil => rfl
  | cons it rest ih =>
    rw [loopItems_cons_fresh (cond := pure true) (ok := true) hx rfl (hbody it (List.mem_cons_self ..) acc),
      List.any_cons, List.find?_cons]
    cases p it
    · exact ih (fun i hi => hbody i (List.mem_cons_of_mem _ hi))
    · rfl

end TallyVerif.Expr
