import TallyVerif.Lemmas.FsSteady
/-!
Why the REORDERED CSV migration (write `merchants.rules.tmp`, rename it into place, append the key to settings.yaml, move the
CSV away last) never changes what a budget classifies with, on an ARBITRARY tree: in every crash state (`Mid`, `migration_mid`)
the legacy CSV is there as long as settings.yaml has no `merchants_file:` key, and a key this run has written names the complete
new rules file.  So the budget classifies as it did, with rules (`Mid.equiv`: for a CSV that is one piece of user content, and a
key in settings.yaml, if it had one, that names a file the migration does not touch), which is what `tally init` needs of the
tree its config stage starts from (`Mid.steady`).  The proof follows the migration statement by statement through its `Stage`s.
-/
namespace TallyVerif.Fs
variable {κ : Type}

/-- the names the migration writes or moves, settings.yaml included -/
def migrationNames : List Rel := .settings :: Ends.migrateRels

/-- what the migration in `loc` does not touch is as it was in `fs` -/
def Untouched (loc : Loc) (fs y : FS κ) : Prop := ∀ q : Path, q.loc ≠ loc ∨ q.rel ∉ migrationNames → lookup y q = lookup fs q

theorem Untouched.writable {loc : Loc} {fs : FS κ} {r : Rel} (hr : r ∈ migrationNames) : Writable (Untouched loc fs) ⟨loc, r⟩ := by
  have ne : ∀ q : Path, q.loc ≠ loc ∨ q.rel ∉ migrationNames → q ≠ ⟨loc, r⟩ := by
    rintro q (h | h) rfl
    · exact h rfl
    · exact h hr
  exact fun y hy => ⟨fun n q hq => (lookup_setNode_ne y _ q n (ne q hq)).trans (hy q hq),
    fun q hq => (lookup_remove_ne y _ q (ne q hq)).trans (hy q hq)⟩

/-- a state of the migration from `fs`: settings.yaml has gained `t`; the new rules file is in place if `r`; the CSV is there if `c` -/
structure Stage (loc : Loc) (fs : FS κ) (sc c₀ : Content κ) (t : Content κ) (r c : Bool) (y : FS κ) : Prop where
  frame : Untouched loc fs y
  settings : lookup y ⟨loc, .settings⟩ = some (.file (sc ++ t))
  rules : r = true → lookup y ⟨loc, .rules⟩ = some (.file [migratedChunk (some c₀)])
  csv : c = true → lookup y ⟨loc, .csv⟩ = some (.file c₀)

/-- a crash state of the migration: settings.yaml has gained some of the two lines, none if it had a key already; the CSV is there
    as long as there is no key; and if this run has written the key, the new rules file is in place -/
def Mid (loc : Loc) (fs : FS κ) (sc c₀ : Content κ) (y : FS κ) : Prop :=
  ∃ t new old, Stage loc fs sc c₀ t new old y ∧ t ∈ tornLines .mfComment .mfKey ∧ ((keyMF sc).isSome = true → t = []) ∧
    ((keyMF (sc ++ t)).isSome = true ∨ old = true) ∧ ((keyMF t).isSome = true → new = true)

variable {loc : Loc} {fs y : FS κ} {sc c₀ t : Content κ} {new old : Bool}

/-- a stage survives whatever becomes of a name it says nothing about -/
theorem Stage.writable {p : Rel} (hp : p ∈ migrationNames) (h1 : p ≠ .settings) (h2 : new = true → p ≠ .rules) (h3 : old = true → p ≠ .csv) :
    Writable (Stage loc fs sc c₀ t new old) ⟨loc, p⟩ := fun z h =>
  ⟨fun n => ⟨((Untouched.writable hp) _ h.frame).1 n, by simpa [lookup_setNode, Ne.symm h1] using h.settings,
      fun e => by simpa [lookup_setNode, Ne.symm (h2 e)] using h.rules e, fun e => by simpa [lookup_setNode, Ne.symm (h3 e)] using h.csv e⟩,
    ⟨((Untouched.writable hp) _ h.frame).2, by rw [lookup_remove_ne _ _ _ (by simpa using Ne.symm h1)]; exact h.settings,
      fun e => by rw [lookup_remove_ne _ _ _ (by simpa using Ne.symm (h2 e))]; exact h.rules e,
      fun e => by rw [lookup_remove_ne _ _ _ (by simpa using Ne.symm (h3 e))]; exact h.csv e⟩⟩

/-- … for a name known by the list it is in (a backup name), the side conditions decided over the list -/
theorem Stage.writable_of_mem {ps : List Rel} {p : Rel} (hp : p ∈ ps)
    (hps : ∀ p ∈ ps, p ∈ migrationNames ∧ p ≠ .settings ∧ (new = true → p ≠ .rules) ∧ (old = true → p ≠ .csv)) :
    Writable (Stage loc fs sc c₀ t new old) ⟨loc, p⟩ :=
  Stage.writable (hps p hp).1 (hps p hp).2.1 (hps p hp).2.2.1 (hps p hp).2.2.2

/-- `merchants.rules.tmp` holds the new rules -/
def TmpWritten (loc : Loc) (fs : FS κ) (sc c₀ : Content κ) (z : FS κ) : Prop :=
  Stage loc fs sc c₀ [] false true z ∧ lookup z ⟨loc, .rulesTmp⟩ = some (.file [migratedChunk (some c₀)])

/-- the new rules file is in place and settings.yaml has a key: the one it had, or the one this run has appended -/
def Keyed (loc : Loc) (fs : FS κ) (sc c₀ : Content κ) (old : Bool) (z : FS κ) : Prop :=
  ∃ t, Stage loc fs sc c₀ t true old z ∧ t ∈ tornLines .mfComment .mfKey ∧ ((keyMF sc).isSome = true → t = []) ∧
    (keyMF (sc ++ t)).isSome = true

theorem Keyed.mid (h : Keyed loc fs sc c₀ old y) : Mid loc fs sc c₀ y :=
  let ⟨_, hs, ht, hk, hkey⟩ := h; ⟨_, _, _, hs, ht, hk, .inl hkey, fun _ => rfl⟩

/-- the append of the key, under the key check: nothing if settings.yaml has a key, else the two lines -/
theorem Stage.settingsAppend (v : CsvVariant) (hkc : v.keyCheck = true) (h : Stage loc fs sc c₀ [] true true y) :
    Ends (Mid loc fs sc c₀) (settingsAppend v loc) y (Keyed loc fs sc c₀ true) := by
  have hs : fileAt y ⟨loc, .settings⟩ = some sc := by simp [fileAt, h.settings]
  have stage : ∀ t, Stage loc fs sc c₀ t true true (setNode y ⟨loc, .settings⟩ (.file (sc ++ t))) := fun t =>
    ⟨((Untouched.writable (.head _)) _ h.frame).1 _, by simp [lookup_setNode],
      fun e => by simpa [lookup_setNode] using h.rules e, fun e => by simpa [lookup_setNode] using h.csv e⟩
  intro m hm
  fun_cases Fs.settingsAppend v loc m
  · rw [hm, hs] at *; contradiction
  · rename_i sc' hs' hk
    have e : sc' = sc := by rw [hm, hs] at hs'; exact (Option.some.inj hs').symm
    rw [hkc, if_pos rfl, e] at hk
    exact Ends.pure (Q := Keyed loc fs sc c₀ true) ⟨[], h, torn_nil, fun _ => rfl, by rwa [List.append_nil]⟩ m hm
  · rename_i sc' hs' hk
    have e : sc' = sc := by rw [hm, hs] at hs'; exact (Option.some.inj hs').symm
    rw [hkc, if_pos rfl, e] at hk
    have hk : keyMF sc = none := by simpa using hk
    refine Ends.appendLines _ _ _ (fun t ht => ?_) ?_ m hm
    · rw [hs]
      exact ⟨_, _, _, stage t, ht, fun e => by simp [hk] at e, .inr rfl, fun _ => rfl⟩
    · rw [hs]
      exact ⟨_, stage _, torn_full, fun e => by simp [hk] at e, by simp [keyMF, Chunk.keyMF]⟩

/-- the reordered CSV migration, under the key check -/
theorem migration_mid (v : CsvVariant) (hre : v.reorder = true) (hkc : v.keyCheck = true)
    (hs : fileAt fs ⟨loc, .settings⟩ = some sc) (hc : fileAt fs ⟨loc, .csv⟩ = some c₀) :
    Ends (Mid loc fs sc c₀) (migrateCsvBody v loc) fs (Mid loc fs sc c₀) := by
  intro m hm
  subst hm
  have A : Stage loc m.fs sc c₀ [] false true m.fs :=
    ⟨fun _ _ => rfl, by simpa using lookup_of_fileAt hs, nofun, fun _ => lookup_of_fileAt hc⟩
  have midA : ∀ {z r}, Stage loc m.fs sc c₀ [] r true z → Mid loc m.fs sc c₀ z := fun h => ⟨_, _, _, h, torn_nil, fun _ => rfl, .inr rfl, nofun⟩
  -- till the rename the stage says nothing of merchants.rules and merchants.rules.tmp
  have W : ∀ {p}, p ∈ [Rel.rules, .rulesTmp] → Writable (Stage loc m.fs sc c₀ [] false true) ⟨loc, p⟩ :=
    fun hp => Stage.writable_of_mem hp (by decide)
  -- an existing merchants.rules backed up
  have first := Ends.branch (I := Mid loc m.fs sc c₀) (c := (v.fresh && pathExists m.fs ⟨loc, .rules⟩) = true)
    (fun _ => (Ends.move (.inl rfl) (W (.head _)) (Stage.writable_of_mem (rulesBackupName_mem m.fs loc) (by decide)) A).mono
      fun _ => midA) fun _ => Ends.pure A
  fun_cases Fs.migrateCsvBody v loc m
  · -- `newC`, the chunk the model binds at the start of the migration, is the conversion of `c₀`
    rename_i newC _
    have enew : newC = migratedChunk (some c₀) := by rw [← hc]
    clear_value newC
    subst enew
    -- `merchants.rules.tmp` written
    have written : ∀ x, Stage loc m.fs sc c₀ [] false true x →
        Ends (Mid loc m.fs sc c₀) (Fs.writeFile ⟨loc, .rulesTmp⟩ (migratedChunk (some c₀))) x (TmpWritten loc m.fs sc c₀) := fun _ h =>
      Ends.writeFile _ _ (fun _ => midA ((W (.tail _ (.head _)) _ h).1 _)) ⟨(W (.tail _ (.head _)) _ h).1 _, lookup_setNode_self ..⟩
    -- … renamed into place
    have renamed : ∀ x, TmpWritten loc m.fs sc c₀ x →
        Ends (Mid loc m.fs sc c₀) (Fs.ev (.replace ⟨loc, .rulesTmp⟩ ⟨loc, .rules⟩)) x (Stage loc m.fs sc c₀ [] true true) := by
      rintro x ⟨h, htmp⟩
      have after : Stage loc m.fs sc c₀ [] true true (applyEv x none (.replace ⟨loc, .rulesTmp⟩ ⟨loc, .rules⟩)).1 := by
        simp only [applyEv, htmp]
        exact { (W (.tail _ (.head _))).moved (W (.head _)) h _ with rules := fun _ => lookup_setNode_self .. }
      exact Ends.ev _ (by simp only [applyEv, htmp]) (midA after) after
    -- the CSV moved away last: by now settings.yaml has a key
    have moved : ∀ x, Keyed loc m.fs sc c₀ true x → Ends (Mid loc m.fs sc c₀) (Fs.backupCsv v loc) x (Mid loc m.fs sc c₀) := by
      rintro x ⟨t, hs, ht, hk, hkey⟩ m' hm'
      subst hm'
      fun_cases Fs.backupCsv v loc m'
      · cases hl : lookup m'.fs ⟨loc, .csv⟩ with
        | none => simp [pathExists, hl] at ‹pathExists m'.fs _ = true›
        | some n =>
          have after : Keyed loc m.fs sc c₀ false (applyEv m'.fs none (.move ⟨loc, .csv⟩ ⟨loc, csvBackupName v m'.fs loc⟩)).1 := by
            simp only [applyEv, hl]
            -- from here on nothing is said of the CSV (`old := false`)
            exact ⟨t, (Stage.writable_of_mem (ps := [.csv]) (old := false) (.head _) (by decide)).moved
              (Stage.writable_of_mem (csvBackupName_mem v m'.fs loc) (by decide)) { hs with csv := nofun } _, ht, hk, hkey⟩
          exact Ends.ev _ (by simp only [applyEv, hl]) after.mid after.mid m' rfl
      · exact Ends.pure (Keyed.mid ⟨t, hs, ht, hk, hkey⟩) m' rfl
    exact ((((first.seq written).seq renamed).seq fun _ h => h.settingsAppend v hkc).seq moved) m rfl
  · exact absurd hre ‹_›

/-- the key appears with the second of the two lines -/
theorem keyMF_torn {t : Content κ} (ht : t ∈ tornLines .mfComment .mfKey) :
    keyMF t = none ∨ t = [.line .mfComment, .line .mfKey] ∧ keyMF t = some .rules := by
  simp only [tornLines, List.mem_cons, List.not_mem_nil, or_false] at ht
  rcases ht with rfl | rfl | rfl | rfl
  · exact .inl rfl
  · exact .inl rfl
  · exact .inl rfl
  · exact .inr ⟨rfl, rfl⟩

theorem noOrig_torn {l1 l2 : Line} {t : Content κ} (ht : t ∈ tornLines l1 l2) : ∀ ch ∈ t, ∀ a m, ch ≠ .orig a m := by
  simp only [tornLines, List.mem_cons, List.not_mem_nil, or_false] at ht
  rcases ht with rfl | rfl | rfl | rfl <;> simp

/-- at a crash state of the migration the budget in `loc` classifies as it did, with rules: as long as the key of settings.yaml is
    what it was, `load_config` reads what it read (`effective_congr`: the CSV is there if there is no key, and the file an old key
    names is not one the migration touches); once this run has written the key, it reads the complete conversion of the CSV.
    (`hkey`: a key that was there names a file that is missing, or one the migration does not touch; `ho`: the CSV is one piece of
    user content, of which `migratedChunk` is the conversion.) -/
theorem Mid.equiv [DecidableEq κ] (h : Mid loc fs sc c₀ y) (hd : findConfigDir fs = some loc) (hs : fileAt fs ⟨loc, .settings⟩ = some sc)
    (hc : fileAt fs ⟨loc, .csv⟩ = some c₀)
    (hkey : ∀ r, keyMF sc = some r → fileAt fs ⟨loc, r⟩ = none ∨ r ∉ migrationNames) (ho : keyMF sc = none → ∃ a m₀, c₀ = [.orig a m₀])
    (hu : (effective fs).rules.usable = true) :
    (effective fs).equiv (effective y) = true ∧ (effective y).rules.usable = true := by
  obtain ⟨t, new, old, st, ht, hk0, hcsv, hnew⟩ := h
  obtain ⟨hdir, sc', c, hs', hload, hfile⟩ := usable_reads hd hu
  obtain rfl : sc' = sc := Option.some.inj (hs'.symm.trans hs)
  have same : ∀ {l : Loc} {r : Rel}, r ∉ migrationNames → lookup y ⟨l, r⟩ = lookup fs ⟨l, r⟩ := fun hr => st.frame _ (.inr hr)
  have hdy : findConfigDir y = some loc := by
    rw [← hd]
    unfold findConfigDir isDir
    rw [same (by decide), same (by decide)]
  have hdir' : isDir y ⟨loc, .configDir⟩ = isDir fs ⟨loc, .configDir⟩ := by rw [isDir, isDir, same (by decide)]
  have hy : fileAt y ⟨loc, .settings⟩ = some (sc' ++ t) := by simp only [fileAt, st.settings]
  have hsrc := hasSources_append (c := sc') (noOrig_torn ht)
  have hstmt : fileAt y ⟨loc, .stmt⟩ = fileAt fs ⟨loc, .stmt⟩ := fileAt_congr (same (by decide))
  -- as long as the key is what it was, the budget reads what it read
  have unchanged : keyMF (sc' ++ t) = keyMF sc' → effective y = effective fs := fun hk => by
    refine effective_congr hd hdy hdir' hs hy ((loadable_append t hload).trans hload.symm) hk hsrc ?_ hstmt
    cases hkm : keyMF sc' with
    | some r =>
      rcases hkey r hkm with hnone | hnot
      · rw [hkm, Option.getD_some, hnone] at hfile; cases hfile
      · exact fileAt_congr (same hnot)
    | none =>
      rw [hk, hkm] at hcsv
      simp only [Option.isSome_none, Bool.false_eq_true, false_or] at hcsv
      simp only [Option.getD_none, fileAt, st.csv hcsv, lookup_of_fileAt hc]
  rcases keyMF_torn ht with hkt | ⟨rfl, hkt⟩
  · rw [unchanged (by rw [keyMF_append, hkt, Option.or_none])]
    exact ⟨Eff.equiv_refl _, hu⟩
  cases hkm : keyMF sc' with
  | some r =>
    rw [unchanged (by rw [keyMF_append, hkm]; rfl)]
    exact ⟨Eff.equiv_refl _, hu⟩
  | none =>
    -- this run has written the key: it names the complete conversion of the CSV
    obtain ⟨a, m₀, rfl⟩ := ho hkm
    have hr : fileAt y ⟨loc, .rules⟩ = some [migratedChunk (some [.orig a m₀])] := by
      simp only [fileAt, st.rules (hnew (by rw [hkt]; rfl))]
    have hky : keyMF (sc' ++ [.line .mfComment, .line .mfKey]) = some .rules := by rw [keyMF_append, hkm, hkt]; rfl
    simp [effective, hd, hdy, hs, hy, effectiveRules, hdir, hdir'.trans hdir, hload, loadable_append _ hload, hsrc, hstmt, hky, hkm, hr, hc,
      migratedChunk, Eff.equiv, RuleSrc.equiv, RuleSrc.usable, Chunk.bearsRules]

/-- … through `./config`, its settings.yaml not naming itself: what the config stage of `tally init` asks of the tree it starts from -/
theorem Mid.steady [DecidableEq κ] (h : Mid .top fs sc c₀ y) (hd : isDir fs ⟨.top, .configDir⟩ = true)
    (hs : fileAt fs ⟨.top, .settings⟩ = some sc) (hc : fileAt fs ⟨.top, .csv⟩ = some c₀)
    (hkey : ∀ r, keyMF sc = some r → r ≠ .settings ∧ (fileAt fs ⟨.top, r⟩ = none ∨ r ∉ migrationNames))
    (ho : keyMF sc = none → ∃ a m₀, c₀ = [.orig a m₀]) : Steady fs y := fun hu => by
  obtain ⟨he, hr⟩ := h.equiv (by simp [findConfigDir, hd]) hs hc (fun r e => (hkey r e).2) ho hu
  obtain ⟨t, _, _, st, ht, hk0, -, -⟩ := h
  refine ⟨he, hr, by rw [← hd, isDir, isDir, st.frame ⟨.top, .configDir⟩ (.inr (by decide))], fun sc' hy => ?_⟩
  obtain rfl : sc ++ t = sc' := by simpa [fileAt, st.settings] using hy
  -- the key is the one that was there, or the one this run has written
  rw [keyMF_append]
  cases hk : keyMF sc with
  | some r => exact fun e => (hkey r hk).1 (Option.some.inj e)
  | none => rcases keyMF_torn ht with e | ⟨-, e⟩ <;> simp [e]

end TallyVerif.Fs
