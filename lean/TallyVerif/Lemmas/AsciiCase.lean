import TallyVerif.Model.Expr
/-! Letter case, in three steps.  Characters: the facts are decided by the kernel on the 128 ASCII code points
(`forall_ascii` carries such a sweep over to characters), and `Char.toLower` / `Char.toUpper` leave every other character
alone, so the two facts `lowerName` needs hold of every character.  Strings: the same facts through `String.map`
(`map_map_eq`, `isAscii_map`).  Last, `pyUpper` / `pyLower` on ASCII text and the text functions, which see their operands
only through `upper()`. -/
namespace TallyVerif.Py

theorem forall_ascii {P : Char → Prop} (h : ∀ n : Nat, n < 128 → P (Char.ofNat n)) (c : Char) (hc : c.toNat < 128) : P c := by
  simpa using h c.toNat hc

theorem up_lo_ascii : ∀ c : Char, c.toNat < 128 → c.toLower.toUpper = c.toUpper := forall_ascii (by decide +kernel)
theorem lo_up_ascii : ∀ c : Char, c.toNat < 128 → c.toUpper.toLower = c.toLower := forall_ascii (by decide +kernel)
theorem lo_lo_ascii : ∀ c : Char, c.toNat < 128 → c.toLower.toLower = c.toLower := forall_ascii (by decide +kernel)
theorem up_ascii_lt : ∀ c : Char, c.toNat < 128 → c.toUpper.toNat < 128 := forall_ascii (by decide +kernel)
theorem lo_ascii_lt : ∀ c : Char, c.toNat < 128 → c.toLower.toNat < 128 := forall_ascii (by decide +kernel)

theorem not_le_ascii {c k : Char} (h : 128 ≤ c.toNat) (hk : k.toNat < 128) : ¬ c.val ≤ k.val :=
  fun hle => Nat.lt_irrefl _ (Nat.lt_of_le_of_lt (Nat.le_trans h (UInt32.le_iff_toNat_le.mp hle)) hk)

theorem char_toLower_nonAscii (c : Char) (h : 128 ≤ c.toNat) : c.toLower = c := by
  fun_cases Char.toLower c with
  | case1 hAZ => exact absurd hAZ.2 (not_le_ascii h (by decide))
  | case2 => rfl

theorem char_toUpper_nonAscii (c : Char) (h : 128 ≤ c.toNat) : c.toUpper = c := by
  fun_cases Char.toUpper c with
  | case1 haz => exact absurd haz.2 (not_le_ascii h (by decide))
  | case2 => rfl

theorem char_lower_lower (c : Char) : c.toLower.toLower = c.toLower := by
  by_cases h : c.toNat < 128
  · exact lo_lo_ascii c h
  · have e := char_toLower_nonAscii c (Nat.le_of_not_lt h)
    rw [e, e]

theorem char_lower_upper (c : Char) : c.toUpper.toLower = c.toLower := by
  by_cases h : c.toNat < 128
  · exact lo_up_ascii c h
  · rw [char_toUpper_nonAscii c (Nat.le_of_not_lt h)]

theorem ascii_mem (s : String) (h : isAsciiStr s = true) (c : Char) (hc : c ∈ s.toList) : c.toNat < 128 := by
  simp only [isAsciiStr, List.all_eq_true, decide_eq_true_eq] at h
  exact h c hc

theorem map_map_eq {f g k : Char → Char} (s : String) (h : ∀ c ∈ s.toList, g (f c) = k c) : (s.map f).map g = s.map k := by
  apply String.toList_inj.mp
  rw [String.toList_map, String.toList_map, String.toList_map, List.map_map]
  exact List.map_congr_left h

theorem upper_lower_ascii (s : String) (h : isAsciiStr s = true) : upperAscii (lowerAscii s) = upperAscii s :=
  map_map_eq s fun c hc => up_lo_ascii c (ascii_mem s h c hc)

theorem lower_upper_ascii (s : String) (h : isAsciiStr s = true) : lowerAscii (upperAscii s) = lowerAscii s :=
  map_map_eq s fun c hc => lo_up_ascii c (ascii_mem s h c hc)

theorem isAscii_map {f : Char → Char} (s : String) (h : ∀ c ∈ s.toList, (f c).toNat < 128) : isAsciiStr (s.map f) = true := by
  simpa only [isAsciiStr, String.toList_map, List.all_map, List.all_eq_true, Function.comp_apply, decide_eq_true_eq] using h

theorem isAscii_upper (s : String) (h : isAsciiStr s = true) : isAsciiStr (upperAscii s) = true :=
  isAscii_map s fun c hc => up_ascii_lt c (ascii_mem s h c hc)

theorem isAscii_lower (s : String) (h : isAsciiStr s = true) : isAsciiStr (lowerAscii s) = true :=
  isAscii_map s fun c hc => lo_ascii_lt c (ascii_mem s h c hc)

end TallyVerif.Py

namespace TallyVerif.Expr
open TallyVerif.Py

theorem pyUpper_ascii (o : Oracles) (s : String) (h : isAsciiStr s = true) : pyUpper o s = .ok (upperAscii s) := by
  simp [pyUpper, h, pure, Except.pure]

theorem pyLower_ascii (o : Oracles) (s : String) (h : isAsciiStr s = true) : pyLower o s = .ok (lowerAscii s) := by
  simp [pyLower, h, pure, Except.pure]

theorem callFn_text_congr (o : Oracles) (ctx ctx' : Ctx) {fn : String} (hfn : fn = "contains" ∨ fn = "normalized" ∨ fn = "startswith")
    {args args' : List Val} {t t' p p' : String}
    (h : textPattern fn ctx.description args = .ok (.str t, .str p))
    (h' : textPattern fn ctx'.description args' = .ok (.str t', .str p'))
    (ht : pyUpper o t = pyUpper o t') (hp : pyUpper o p = pyUpper o p') :
    callFn o ctx fn args = callFn o ctx' fn args' := by
  unfold callFn
  rcases hfn with rfl | rfl | rfl <;> simp only [h, h', requireStr, bind, Except.bind, pure, Except.pure, ht, hp]

end TallyVerif.Expr
