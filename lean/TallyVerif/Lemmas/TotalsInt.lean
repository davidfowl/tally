import TallyVerif.Lemmas.Assoc
/-! Sums over lists and dictionaries of exact amounts (`intNum`); `sumBy_accumFrom` and `sumCounts_accumFrom` are
the `Int` and `Nat` instances of `foldl_op_accumFrom`. -/
namespace TallyVerif.Totals
open TallyVerif TallyVerif.Gen

/-- Σ f over a list, as the left fold Python's `+=` loop performs. -/
def sumBy {τ : Type} (f : τ → Int) (l : List τ) : Int := l.foldl (fun acc t => acc + f t) 0

theorem foldl_add_init {τ : Type} (f : τ → Int) (l : List τ) (a : Int) :
    l.foldl (fun acc t => acc + f t) a = a + sumBy f l := by
  have := foldl_op_shift (· + · : Int → Int → Int) f a l 0
  rwa [Int.zero_add, Int.add_comm] at this

@[simp] theorem sumBy_nil {τ : Type} (f : τ → Int) : sumBy f [] = 0 := rfl

theorem sumBy_cons {τ : Type} (f : τ → Int) (t : τ) (l : List τ) : sumBy f (t :: l) = f t + sumBy f l := by
  rw [sumBy, List.foldl_cons, foldl_add_init, Int.zero_add]

theorem sumBy_append {τ : Type} (f : τ → Int) (l₁ l₂ : List τ) :
    sumBy f (l₁ ++ l₂) = sumBy f l₁ + sumBy f l₂ := by
  rw [sumBy, List.foldl_append, foldl_add_init]; rfl

theorem sumBy_perm {τ : Type} (f : τ → Int) {l l' : List τ} (p : l.Perm l') : sumBy f l = sumBy f l' :=
  p.foldl_eq' (fun x _ y _ z => Int.add_right_comm z (f x) (f y)) 0

theorem sumBy_add {τ : Type} (f g : τ → Int) (l : List τ) : sumBy (fun t => f t + g t) l = sumBy f l + sumBy g l := by
  induction l with
  | nil => rfl
  | cons t l ih => simp only [sumBy_cons, ih]; omega

/-- Σ of the values of a dictionary -/
def sumVals {κ : Type} (m : List (κ × Int)) : Int := sumBy (fun kv => kv.2) m

def sumCounts {κ : Type} (m : List (κ × (Nat × Int))) : Nat := m.foldl (fun acc kv => acc + kv.2.1) 0
def sumTotals {κ : Type} (m : List (κ × (Nat × Int))) : Int := sumBy (fun kv => kv.2.2) m

variable {κ β τ : Type} [BEq κ]

theorem sumBy_accumFrom (μ : β → Int) (w : τ → Int) (key : τ → κ) (d : β) (g : τ → β → β)
    (hd : ∀ t, μ (g t d) = w t) (hg : ∀ t v, μ (g t v) = μ v + w t) (l : List τ) :
    sumBy (fun kv => μ kv.2) (accumFrom key d g [] l) = sumBy w l :=
  foldl_op_accumFrom (· + · : Int → Int → Int) μ w key d g hd hg l [] 0

theorem sumCounts_accumFrom (key : τ → κ) (d : Nat × Int) (g : τ → Nat × Int → Nat × Int)
    (hd : ∀ t, (g t d).1 = 1) (hg : ∀ t v, (g t v).1 = v.1 + 1) (l : List τ) :
    sumCounts (accumFrom key d g [] l) = l.length := by
  unfold sumCounts
  rw [foldl_op_accumFrom (· + · : Nat → Nat → Nat) (fun v : Nat × Int => v.1) (fun _ => 1) key d g hd hg l [] 0,
    List.foldl_add_const, Nat.one_mul]
  exact Nat.zero_add _

end TallyVerif.Totals
