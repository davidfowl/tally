import TallyVerif.Model.Fs
/-! Exhaustive kernel-checked evaluation of the C15 crash check `crashCheck` for the layout migration (`tally update --yes`) on the
REPAIRED step order (`Variants.repaired`): every old-layout shape × every crash snapshot × every in-flight state.
`decide +kernel`: no axioms. -/
namespace TallyVerif.Fs
theorem layoutCrash_all :
    (allLShapes.all fun s => crashCheck .repaired .layout (s.fs id)) = true := by decide +kernel

end TallyVerif.Fs
