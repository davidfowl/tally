import TallyVerif.Model.Fs
/-! Frame lemmas: `lookup` after the primitive file-system updates and against membership, for ARBITRARY file systems. -/
namespace TallyVerif.Fs
variable {κ : Type}

theorem lookup_remove_ne (fs : FS κ) (p q : Path) (h : q ≠ p) : lookup (remove fs p) q = lookup fs q := by
  unfold remove
  fun_induction lookup fs q with
  | case1 => rfl
  | case2 rest n => rw [List.filter_cons_of_pos (by simpa using h), lookup, if_pos rfl]
  | case3 rest r n hr ih =>
    rw [List.filter_cons]
    split
    · rw [lookup, if_neg hr, ih]
    · exact ih

theorem lookup_setNode_ne (fs : FS κ) (p q : Path) (n : Node κ) (h : q ≠ p) :
    lookup (setNode fs p n) q = lookup fs q := by
  have hp : p ≠ q := fun e => h e.symm
  simp only [setNode, lookup, hp, if_false]
  exact lookup_remove_ne fs p q h

theorem lookup_flushed_ne (fs : FS κ) (fl : Option (InFlight κ)) (q : Path)
    (h : ∀ f, fl = some f → q ≠ f.path) : lookup (flushed fs fl) q = lookup fs q := by
  cases fl with
  | none => rfl
  | some f => exact lookup_setNode_ne fs f.path q _ (h f rfl)

theorem setNode_setNode (fs : FS κ) (p : Path) (a b : Node κ) : setNode (setNode fs p a) p b = setNode fs p b := by
  simp [setNode, remove, List.filter_filter]

theorem lookup_of_not_pathExists {fs : FS κ} {p : Path} (h : ¬ pathExists fs p = true) : lookup fs p = none := by
  simpa [pathExists] using h

theorem lookup_setNode_self (fs : FS κ) (p : Path) (n : Node κ) : lookup (setNode fs p n) p = some n := by
  simp [setNode, lookup]

theorem lookup_remove_self (fs : FS κ) (p : Path) : lookup (remove fs p) p = none := by
  induction fs with
  | nil => rfl
  | cons e t ih =>
    unfold remove at ih ⊢
    by_cases h : e.1 = p <;> simp [h, lookup, ih]

theorem lookup_setNode (fs : FS κ) (p q : Path) (n : Node κ) : lookup (setNode fs p n) q = if q = p then some n else lookup fs q := by
  split
  · rw [‹q = p›, lookup_setNode_self]
  · exact lookup_setNode_ne _ _ _ _ ‹_›

/-- the tree after `shutil.move a b` of the node `n` -/
theorem lookup_moved (fs : FS κ) (a b q : Path) (n : Node κ) :
    lookup (setNode (remove fs a) b n) q = if q = b then some n else if q = a then none else lookup fs q := by
  split
  · rw [‹q = b›, lookup_setNode_self]
  · rw [lookup_setNode_ne _ _ _ _ ‹_›]
    split
    · rw [‹q = a›, lookup_remove_self]
    · exact lookup_remove_ne _ _ _ ‹_›

theorem lookup_of_fileAt {fs : FS κ} {p : Path} {c : Content κ} (h : fileAt fs p = some c) : lookup fs p = some (.file c) := by
  revert h
  fun_cases fileAt fs p <;> simp_all

theorem mem_of_lookup {fs : FS κ} {p : Path} {n : Node κ} (h : lookup fs p = some n) : (p, n) ∈ fs := by
  fun_induction lookup fs p <;> simp_all

/-- no name twice: every entry of the list is what `lookup` finds at its name -/
def Once (fs : FS κ) : Prop := ∀ e ∈ fs, lookup fs e.1 = some e.2

theorem Once.of_nodup {fs : FS κ} (hn : (fs.map Prod.fst).Nodup) : Once fs := by
  induction fs with
  | nil => exact fun _ h => nomatch h
  | cons a t ih =>
    have hn' := List.nodup_cons.mp hn
    intro e he
    rw [lookup]
    cases he with
    | head => rw [if_pos rfl]
    | tail _ he =>
      rw [if_neg fun h => hn'.1 (List.mem_map.mpr ⟨e, he, h.symm⟩)]
      exact ih hn'.2 e he

theorem lookup_of_not_mem {fs : FS κ} {p : Path} (h : p ∉ fs.map Prod.fst) : lookup fs p = none := by
  fun_induction lookup fs p with
  | case1 => rfl
  | case2 => exact absurd (.head _) h
  | case3 _ _ _ _ ih => exact ih fun hm => h (.tail _ hm)

theorem fileAt_congr {x y : FS κ} {q : Path} (h : lookup y q = lookup x q) : fileAt y q = fileAt x q := by
  unfold fileAt; rw [h]

theorem mem_remove {x : FS κ} {p : Path} {e : Path × Node κ} : e ∈ remove x p ↔ e ∈ x ∧ e.1 ≠ p := by simp [remove]

theorem Once.moved {x : FS κ} {a b : Path} {n : Node κ} (hx : Once x) : Once (setNode (remove x a) b n) := by
  intro e he
  rw [lookup_moved]
  rcases List.mem_cons.mp he with rfl | he
  · exact if_pos rfl
  · obtain ⟨⟨he, ha⟩, hb'⟩ := mem_remove.mp he |>.imp_left mem_remove.mp
    rw [if_neg hb', if_neg ha]
    exact hx e he

end TallyVerif.Fs
