import TallyVerif.Lemmas.FsWrites
/-!
What the commands keep of an ARBITRARY tree (C20, and the first clause of C15): settings.yaml is only ever appended to
(`complete_extends_settings`); `tally init` loses nothing that was there, in any crash state or at the end (`init_keeps`), and
run on its own result does nothing (`init_settles`, `init_of_settled`).  `Grows` is the invariant behind the first two.  At the
end: the budget shapes meet the hypotheses of these theorems (`Shape.once`, `Shape.absent`, `Shape.backupFree`, `Shape.keyMF_cases`, `Shape.csv_single`).
-/
namespace TallyVerif.Fs
variable {κ : Type}

theorem complete_init (v : Variants) {fs : FS κ} {loc : Loc} (hl : initLoc fs = loc) :
    complete v .init fs = (cmdInit v.csv loc (start fs)).m :=
  congrArg Res.m (runProg_init v hl none)

/-- how the node `y` at `q` may differ from the node `x` that the reference tree has there: not at all; in any way where `F q`;
    at the path `s`, by chunks of kind `L` appended -/
def grew (L : Chunk κ → Prop) (s : Path) (F : Path → Prop) (q : Path) (x y : Option (Node κ)) : Prop :=
  y = x ∨ F q ∨ (q = s ∧ ∃ c t, x = some (.file c) ∧ y = some (.file (c ++ t)) ∧ ∀ ch ∈ t, L ch)

/-- `fs` against the reference tree `ref`, path by path -/
def Grows (L : Chunk κ → Prop) (s : Path) (F : Path → Prop) (ref fs : FS κ) : Prop :=
  ∀ q, grew L s F q (lookup ref q) (lookup fs q)

namespace Grows
variable {L : Chunk κ → Prop} {s p : Path} {F : Path → Prop} {ref fs : FS κ}

theorem refl : Grows L s F ref ref := fun _ => .inl rfl

theorem setNode {n : Node κ} (h : Grows L s F ref fs) (hp : grew L s F p (lookup ref p) (some n)) : Grows L s F ref (setNode fs p n) := by
  intro q
  by_cases hq : q = p
  · subst hq; rw [lookup_setNode_self]; exact hp
  · rw [lookup_setNode_ne _ _ _ _ hq]; exact h q

theorem remove (h : Grows L s F ref fs) (hp : grew L s F p (lookup ref p) none) : Grows L s F ref (remove fs p) := by
  intro q
  by_cases hq : q = p
  · subst hq; rw [lookup_remove_self]; exact hp
  · rw [lookup_remove_ne _ _ _ hq]; exact h q

theorem same (h : Grows L s F ref fs) (hF : ¬ F p) (hs : p ≠ s) : lookup fs p = lookup ref p := by
  rcases h p with e | f | ⟨e, _⟩
  · exact e
  · exact absurd f hF
  · exact absurd e hs

/-- at `s`, a file of the reference tree is there with chunks of kind `L` appended -/
theorem appended {c : Content κ} (h : Grows L s F ref fs) (hF : ¬ F s) (hc : fileAt ref s = some c) :
    ∃ t, fileAt fs s = some (c ++ t) ∧ ∀ ch ∈ t, L ch := by
  have hl := lookup_of_fileAt hc
  rcases h s with e | f | ⟨-, c', t, hr, e, ht⟩
  · exact ⟨[], by rw [List.append_nil, fileAt_congr e, hc], nofun⟩
  · exact absurd f hF
  · obtain rfl : c' = c := by rw [hl] at hr; injection hr with hr; injection hr with hr; exact hr.symm
    exact ⟨t, by simp only [fileAt, e], ht⟩

theorem writable (hF : F p) : Writable (Grows L s F ref) p :=
  fun _ h => ⟨fun _ => h.setNode (.inr (.inl hF)), h.remove (.inr (.inl hF))⟩

theorem creatable (hF : lookup ref p = none → F p) : Creatable (Grows L s F ref) p := by
  intro fs n h hn
  refine h.setNode ?_
  rcases h p with e | f | ⟨rfl, c, t, _, e, _⟩
  · exact .inr (.inl (hF (e ▸ hn)))
  · exact .inr (.inl f)
  · rw [hn] at e; cases e

theorem append {c t : Content κ} (h : Grows L s F ref fs) (hp : p = s ∨ F p) (hc : fileAt fs p = some c) (ht : ∀ ch ∈ t, L ch) :
    Grows L s F ref (Fs.setNode fs p (.file (c ++ t))) := by
  have hl := lookup_of_fileAt hc
  refine h.setNode ?_
  rcases hp with rfl | hF
  · rcases h p with e | f | ⟨_, c₀, t₀, hr, e, ht₀⟩
    · exact .inr (.inr ⟨rfl, c, t, e ▸ hl, rfl, ht⟩)
    · exact .inr (.inl f)
    · obtain rfl : c = c₀ ++ t₀ := by rw [hl] at e; simpa using e
      exact .inr (.inr ⟨rfl, c₀, t₀ ++ t, hr, by rw [List.append_assoc], fun ch h => (List.mem_append.mp h).elim (ht₀ ch) (ht ch)⟩)
  · exact .inr (.inl hF)

theorem appendable {l1 l2 : Line} (hp : p = s ∨ F p) (h1 : L (.line l1)) (h2 : L (.line l2)) : Appendable (Grows L s F ref) p l1 l2 :=
  fun _ _ h hc => h.append hp hc fun ch hch => by
    simp only [List.mem_cons, List.not_mem_nil, or_false] at hch
    rcases hch with rfl | rfl <;> assumption

end Grows

/-- one of the lines tally appends to settings.yaml -/
def Chunk.IsLine (ch : Chunk κ) : Prop := ∃ l, ch = .line l

/-- every command but the layout migration, on any tree, whichever variant: settings.yaml of either budget directory, if there,
    keeps its content and gains at most appended lines.  (Everything else a command opens, moves or creates has another name.) -/
theorem complete_extends_settings (v : Variants) {p : Prog} (hp : p ≠ .layout) {fs : FS κ} {l : Loc} {c : Content κ}
    (h : fileAt fs ⟨l, .settings⟩ = some c) :
    ∃ t, fileAt (complete v p fs).fs ⟨l, .settings⟩ = some (c ++ t) ∧ ∀ ch ∈ t, ch.IsLine := by
  have hl := lookup_of_fileAt h
  generalize hs : (⟨l, .settings⟩ : Path) = s at h hl
  have W : ∀ {p}, p ≠ s → Writable (Grows Chunk.IsLine s (· ≠ s) fs) p := fun hp => Grows.writable hp
  have C : ∀ p, Creatable (Grows Chunk.IsLine s (· ≠ s) fs) p := fun p => Grows.creatable fun hn e => by rw [e, hl] at hn; cases hn
  have A : ∀ p l1 l2, Appendable (Grows Chunk.IsLine s (· ≠ s) fs) p l1 l2 := fun p _ _ => Grows.appendable (Decidable.em _) ⟨_, rfl⟩ ⟨_, rfl⟩
  have mig := fun loc => Ends.migrateCsvBody_writable v.csv (loc := loc)
    (fun b hb => W fun e => path_ne_of_rel hb (by decide) (e.trans hs.symm)) (A _ _ _) .refl
  -- only the tree a command ends with is asked about: its crash states may be anything
  have hmig : ∀ loc, Ends (fun _ => True) (migrateCsvBody v.csv loc) fs (Grows Chunk.IsLine s (· ≠ s) fs) :=
    fun loc => (mig loc).mono fun _ _ => trivial
  have run : Ends (fun _ => True) (fun m => (runProg v p m).1) fs (Grows Chunk.IsLine s (· ≠ s) fs) := by
    cases p with
    | layout => exact absurd rfl hp
    | readOnly => exact .pure .refl
    | upMigrate => exact Ends.upRules v.csv true (fun _ => hmig) .refl
    | init =>
      exact fun m hm => Ends.mono (fun _ _ => trivial) (Ends.cmdInit v.csv (fun _ _ => C _) (C _) (A _ _ _) (fun _ => mig _) .refl) m hm
    | up => exact .cmdUp v.csv false true (fun _ => hmig) (fun _ _ => ⟨C _, fun _ => C _, W (by simp [← hs])⟩) (fun _ _ => trivial) .refl
    | upMigrateHtml =>
      exact .cmdUp v.csv true true (fun _ => hmig) (fun _ _ => ⟨C _, fun _ => C _, W (by simp [← hs])⟩) (fun _ _ => trivial) .refl
  exact (Ends.complete (v := v) (p := p) rfl run).appended (fun f => f rfl) h

/-- where `tally init` creates, or writes and removes again, when the name is free -/
def initRels : List Rel := .tallyDir :: .rulesTmp :: initCreates

/-- against `ref`: settings.yaml of `loc` has gained chunks of kind `L`; what else differs is at a name of `initRels` that was free -/
def InitGrows (L : Chunk κ → Prop) (loc : Loc) (ref fs : FS κ) : Prop :=
  Grows L ⟨loc, .settings⟩ (fun q => lookup ref q = none ∧ q.rel ∈ initRels) ref fs

/-- what `tally init`, and the CSV migration wherever it runs, keeps of `fs₀`: `InitGrows` against `fs₀`, or against `fs₀` with the
    legacy CSV moved to a backup name that was free -/
def InitKeeps (loc : Loc) (fs₀ fs : FS κ) : Prop :=
  ∃ ref, (ref = fs₀ ∨ ∃ b c, b ∈ csvBackups ∧ lookup fs₀ ⟨loc, .csv⟩ = some (.file c) ∧ lookup fs₀ ⟨loc, b⟩ = none ∧
    ref = setNode (remove fs₀ ⟨loc, .csv⟩) ⟨loc, b⟩ (.file c)) ∧ InitGrows (fun _ => True) loc ref fs

/-- a settings.yaml caught in the middle of an append has gained something all the same -/
theorem InitKeeps.torn {loc : Loc} {fs₀ y : FS κ} : Torn ⟨loc, .settings⟩ (InitKeeps loc fs₀) y → InitKeeps loc fs₀ y
  | .inl h => h
  | .inr ⟨_, _, _, ⟨ref, hr, g⟩, hc, e⟩ => e ▸ ⟨ref, hr, g.append (.inl rfl) hc fun _ _ => trivial⟩

theorem csvBackups_not_written : ∀ b ∈ csvBackups, b ∉ initRels ∧ b ≠ .settings ∧ b ≠ .csv := by decide

theorem InitGrows.moved {L : Chunk κ → Prop} {loc : Loc} {b : Rel} {n : Node κ} {ref fs : FS κ} (h : InitGrows L loc ref fs)
    (hb : b ∈ csvBackups) (hc : lookup fs ⟨loc, .csv⟩ = some n) (hf : lookup fs ⟨loc, b⟩ = none) :
    lookup ref ⟨loc, .csv⟩ = some n ∧ lookup ref ⟨loc, b⟩ = none ∧
      InitGrows L loc (setNode (remove ref ⟨loc, .csv⟩) ⟨loc, b⟩ n) (setNode (remove fs ⟨loc, .csv⟩) ⟨loc, b⟩ n) := by
  obtain ⟨h1, h2, -⟩ := csvBackups_not_written b hb
  have ec := h.same (p := ⟨loc, .csv⟩) (fun hF => absurd hF.2 (by decide : Rel.csv ∉ initRels)) (by simp)
  have eb := h.same (p := ⟨loc, b⟩) (fun hF => h1 hF.2) (by simp [h2])
  refine ⟨ec ▸ hc, eb ▸ hf, fun q => ?_⟩
  rw [lookup_moved, lookup_moved]
  split
  · exact .inl rfl
  · split
    · exact .inl rfl
    · rcases h q with e | f | g
      · exact .inl e
      · exact .inr (.inl ⟨by rw [lookup_moved, if_neg ‹_›, if_neg ‹_›]; exact f.1, f.2⟩)
      · exact .inr (.inr g)

/-- what `InitKeeps` says of one node of `fs₀`: it is there; or it is settings.yaml, which has gained something; or it is the legacy
    CSV, now under a backup name that was free -/
theorem InitKeeps.node {loc : Loc} {fs₀ fs : FS κ} (h : InitKeeps loc fs₀ fs) {q : Path} {n : Node κ} (hq : lookup fs₀ q = some n) :
    lookup fs q = some n ∨ (q = ⟨loc, .settings⟩ ∧ ∃ c t, n = .file c ∧ lookup fs q = some (.file (c ++ t))) ∨
    (q = ⟨loc, .csv⟩ ∧ ∃ b c, b ∈ csvBackups ∧ n = .file c ∧ lookup fs₀ ⟨loc, b⟩ = none ∧ lookup fs q = none ∧
      lookup fs ⟨loc, b⟩ = some (.file c)) := by
  obtain ⟨ref, hr, g⟩ := h
  -- the node is there in the reference tree too, unless it is the CSV that has been moved
  have there : lookup ref q = some n → lookup fs q = some n ∨ (q = ⟨loc, .settings⟩ ∧ ∃ c t, n = .file c ∧ lookup fs q = some (.file (c ++ t))) := by
    intro h
    rcases g q with e | f | ⟨rfl, c, t, hr, e, -⟩
    · exact .inl (e.trans h)
    · rw [f.1] at h; cases h
    · exact .inr ⟨rfl, c, t, Option.some.inj (h.symm.trans hr), e⟩
  rcases hr with rfl | ⟨b, c, hb, hc, hf, rfl⟩
  · exact (there hq).imp_right .inl
  · by_cases hcsv : q = ⟨loc, .csv⟩
    · subst hcsv
      obtain ⟨h1, h2, h3⟩ := csvBackups_not_written b hb
      refine .inr (.inr ⟨rfl, b, c, hb, Option.some.inj (hq.symm.trans hc), hf, ?_, ?_⟩)
      · rw [g.same (fun hF => absurd hF.2 (by decide : Rel.csv ∉ initRels)) (by simp), lookup_moved,
          if_neg (by simp [Ne.symm h3]), if_pos rfl]
      · rw [g.same (fun hF => h1 hF.2) (by simp [h2]), lookup_moved, if_pos rfl]
    · refine (there ?_).imp_right .inl
      rw [lookup_moved, if_neg (fun e => by rw [e, hf] at hq; cases hq), if_neg hcsv]
      exact hq

theorem InitGrows.backupCsv (v : CsvVariant) {loc : Loc} {fs₀ fs : FS κ}
    (hcsv : ∀ n, lookup fs₀ ⟨loc, .csv⟩ = some n → ∃ c, n = .file c)
    (hfree : BackupFree v loc fs₀)
    (h : InitGrows (fun _ => True) loc fs₀ fs) : Ends (InitKeeps loc fs₀) (backupCsv v loc) fs (InitKeeps loc fs₀) := by
  intro m hm
  subst hm
  fun_cases Fs.backupCsv v loc m
  · cases hc : lookup m.fs ⟨loc, .csv⟩ with
    | none => simp [pathExists, hc] at ‹pathExists m.fs _ = true›
    | some n =>
      -- the backup names are as in `fs₀`, so the one chosen is free
      have hf : lookup m.fs ⟨loc, csvBackupName v m.fs loc⟩ = none := by
        obtain ⟨b, hb, hn⟩ := hfree
        have hb' : b ∈ csvBackups := by split at hb; exact hb; exact List.mem_singleton.mp hb ▸ .head _
        obtain ⟨h1, h2, -⟩ := csvBackups_not_written b hb'
        exact csvBackupName_free ⟨b, hb, (h.same (fun hF => h1 hF.2) (by simp [h2])).trans hn⟩
      obtain ⟨e1, e2, g⟩ := h.moved (csvBackupName_mem v m.fs loc) hc hf
      obtain ⟨c, rfl⟩ := hcsv n e1
      have after : InitKeeps loc fs₀ (applyEv m.fs none (.move ⟨loc, .csv⟩ ⟨loc, csvBackupName v m.fs loc⟩)).1 := by
        simp only [applyEv, hc]
        exact ⟨_, .inr ⟨_, c, csvBackupName_mem v m.fs loc, e1, e2, rfl⟩, g⟩
      exact Ends.ev _ (by simp only [applyEv, hc]) after after m rfl
  · exact Ends.pure ⟨_, .inl rfl, h⟩ m rfl

theorem InitKeeps.creatable {loc : Loc} {fs₀ : FS κ} {p : Path} (hp : p.rel ∈ initRels) : Creatable (InitKeeps loc fs₀) p :=
  Creatable.exists fun _ => Grows.creatable fun hn => ⟨hn, hp⟩

theorem InitGrows.appendable {loc : Loc} {l1 l2 : Line} (ref : FS κ) :
    Appendable (InitGrows (fun _ => True) loc ref) ⟨loc, .settings⟩ l1 l2 := Grows.appendable (.inl rfl) trivial trivial

theorem migration_keeps (v : CsvVariant) {fs : FS κ} {loc : Loc} {c : Content κ} (hc : fileAt fs ⟨loc, .csv⟩ = some c)
    (hr : lookup fs ⟨loc, .rules⟩ = none) (ht : lookup fs ⟨loc, .rulesTmp⟩ = none)
    (hb : BackupFree v loc fs) :
    Ends (InitKeeps loc fs) (migrateCsvBody v loc) fs (InitKeeps loc fs) :=
  (Ends.migrateCsvBody v (Grows.writable ⟨hr, (by decide : Rel.rules ∈ initRels)⟩)
    (Grows.writable ⟨ht, (by decide : Rel.rulesTmp ∈ initRels)⟩)
    (fun hp => by simp [pathExists, hr] at hp) (InitGrows.appendable fs) (Appendable.exists InitGrows.appendable)
    (fun _ => InitGrows.backupCsv v (fun n hn => ⟨c, by rw [lookup_of_fileAt hc] at hn; exact (Option.some.inj hn).symm⟩) hb)
    (fun _ h => ⟨fs, .inl rfl, h⟩) .refl).mono fun _ => InitKeeps.torn

theorem InitKeeps.configStage {loc : Loc} {fs₀ fs : FS κ} (h : InitKeeps loc fs₀ fs) :
    Ends (InitKeeps loc fs₀) (fun m => initConfig loc m ⊳ tryLast (viewsAppendBody loc)) fs (InitKeeps loc fs₀) :=
  (Ends.configStage (fun _ hr => InitKeeps.creatable (.tail _ (.tail _ hr))) (InitKeeps.creatable (.head _))
    (Appendable.exists InitGrows.appendable) h).mono
    fun _ => InitKeeps.torn

/-- `tally init` on any tree, whichever variant, in the budget directory `loc`: if it comes to migrate the legacy CSV, let
    `merchants.rules.tmp` be free and a backup name for the CSV be free (the first one, where the code does not look for a free one).
    Then nothing that was there is lost, in any crash state or at the end: settings.yaml gains lines, the CSV moves to a backup name
    that was free, and whatever else is new is at a name `init` creates and was free. -/
theorem init_keeps (v : CsvVariant) {fs : FS κ} {loc : Loc}
    (hfree : initMigrates loc fs = true → lookup fs ⟨loc, .rulesTmp⟩ = none ∧
      BackupFree v loc fs) :
    Ends (InitKeeps loc fs) (cmdInit v loc) fs (InitKeeps loc fs) :=
  Ends.cmdInit_stages v (Ends.initMigration v (fun hm => let ⟨⟨_, hc⟩, hr⟩ := initMigrates_reads hm
      migration_keeps v hc hr (hfree hm).1 (hfree hm).2) ⟨fs, .inl rfl, .refl⟩)
    fun _ => InitKeeps.configStage

theorem complete_init_keeps (v : Variants) {fs : FS κ} {loc : Loc} (hl : initLoc fs = loc)
    (hfree : initMigrates loc fs = true → lookup fs ⟨loc, .rulesTmp⟩ = none ∧
      BackupFree v.csv loc fs) :
    InitKeeps loc fs (complete v .init fs).fs :=
  Ends.complete (complete_init v hl) (init_keeps v.csv hfree)

/-- all that `tally init` would create in `./` is there, and settings.yaml mentions `views_file:` -/
structure Settled (fs : FS κ) : Prop where
  config : lookup fs ⟨.top, .configDir⟩ = some .dir
  has : ∀ r ∈ initCreates, pathExists fs ⟨.top, r⟩ = true
  views : MentionsViews .top fs

theorem init_of_settled (v : Variants) {fs : FS κ} (h : Settled fs) :
    (complete v .init fs).n = 3 ∧ (complete v .init fs).fs = fs := by
  have hm : initMigrates .top fs = false := by
    fun_cases initMigrates .top fs
    · simp [h.has .rules (by decide)]
    · rfl
  have hv : ∀ m : M κ, m.fs = fs → viewsAppendBody .top m = .ok m := by
    rintro m rfl
    fun_cases viewsAppendBody .top m
    · rfl
    · simp_all [h.views _ ‹_›]
    · rfl
  rw [complete_init v (loc := .top) (by rw [initLoc, isDir, h.config]; rfl), cmdInit_eq]
  -- every guard is decided: three `mkdir`s of what is there (the three events), four files that exist, nothing to append
  simp [hm, hv, start, initConfig, ev, applyEv, createIfMissing, Res.andThen, tryLast, tryCatch, Res.m,
    h.has .configDir (by decide), h.has .dataDir (by decide), h.has .outputDir (by decide), h.has .settings (by decide),
    h.has .rules (by decide), h.has .views (by decide), h.has .gitignore (by decide)]

theorem init_settles (v : Variants) {fs : FS κ} (hc : lookup fs ⟨.top, .configDir⟩ = some .dir) : Settled (complete v .init fs).fs := by
  have C : ∀ p, Creatable (fun x : FS κ => lookup x ⟨.top, .configDir⟩ = some .dir) p := fun p => by
    by_cases hp : ⟨.top, .configDir⟩ = p
    · subst hp; intro x n hx hn; rw [hn] at hx; cases hx
    · exact (Writable.lookup_eq hp _).creatable
  have T : ∀ p, Writable (fun _ : FS κ => True) p := fun _ _ _ => ⟨fun _ => trivial, trivial⟩
  -- `./config` stays a directory throughout: an invariant of the whole command
  have h1 := Ends.cmdInit (loc := .top) v.csv (fun _ _ => C _) (C _) (Writable.lookup_eq (by simp) _).appendable
    (fun _ => .migrateCsvBody_writable v.csv
      (fun b hb => Writable.lookup_eq (path_ne_of_rel hb (by decide)).symm _)
      (Writable.lookup_eq (by simp) _).appendable hc) hc
  -- what `init_config` creates is there afterwards, and the views step leaves the mention: nothing is asked of the migration step
  have h2 := Ends.cmdInit_stages v.csv (Ends.initMigration v.csv (fs := fs) (loc := .top) (I := fun _ => True) (J := fun _ => True)
      (fun _ => (Ends.migrateCsvBody_writable v.csv (fun _ _ => T _) (T _).appendable trivial).mono fun _ _ => trivial) trivial)
    fun x _ => Ends.initConfig_has.seq fun y hy => .tryLast (Ends.mono (fun _ _ => trivial)
      ((Ends.viewsAppendBody (I := fun _ => True) (fun _ _ _ _ => trivial) (Has.appendable _ _ _) hy).and
        (.viewsAppendBody_mentions (hy _ (by decide)))))
  obtain ⟨g1, g2, g3⟩ := Ends.complete (complete_init v (loc := .top) (by rw [initLoc, isDir, hc]; rfl)) (h1.and h2)
  exact ⟨g1, fun r hr => g2 _ (List.mem_reverse.mpr (List.mem_map_of_mem hr)), g3⟩

/-- the names a budget of a shape with / without `.bak` can hold, in the order of `Shape.fsWith` -/
def shapeKeys (bak : Bool) : List Path :=
  [⟨.top, .configDir⟩] ++ [⟨.top, .settings⟩] ++ [⟨.top, .csv⟩] ++ [⟨.top, .rules⟩] ++ (if bak then [⟨.top, .csvBak⟩] else []) ++
    [⟨.top, .other⟩] ++ [⟨.top, .views⟩] ++ [⟨.top, .dataDir⟩, ⟨.top, .stmt⟩, ⟨.top, .outputDir⟩, ⟨.top, .report⟩] ++ [⟨.top, .gitignore⟩]

theorem keys_fsWith (s : Shape) (g : Bool) (u : Rel → κ) : ((s.fsWith g u).map Prod.fst).Sublist (shapeKeys s.csvBak) := by
  have opt : ∀ (b : Bool) (p : Path) (c : Chunk κ), ((optFile b p c).map Prod.fst).Sublist [p] := by
    intro b p c; cases b <;> simp [optFile]
  unfold Shape.fsWith Shape.fs shapeKeys
  simp only [List.map_append]
  refine ((((((((List.Sublist.refl _).append (opt _ _ _)).append (opt _ _ _)).append (opt _ _ _)).append ?_).append (opt _ _ _)).append
    (opt _ _ _)).append ?_).append (opt _ _ _)
  · cases s.csvBak <;> simp [optFile]
  · cases s.dirs <;> simp

theorem Shape.once (s : Shape) (g : Bool) (u : Rel → κ) : Once (s.fsWith g u) :=
  .of_nodup ((keys_fsWith s g u).nodup (by cases s.csvBak <;> decide))

theorem Shape.absent (s : Shape) (g : Bool) (u : Rel → κ) {p : Path} (hp : p ∉ shapeKeys s.csvBak) : lookup (s.fsWith g u) p = none :=
  lookup_of_not_mem fun h => hp ((keys_fsWith s g u).subset h)

/-- a budget shape has a free backup name for the legacy CSV when the migration looks for one (a shape has no `.bak.1`) or there
    is no `.bak` -/
theorem Shape.backupFree {v : CsvVariant} (s : Shape) (g : Bool) (u : Rel → κ) {loc : Loc} (hv : v.fresh = true ∨ s.csvBak = false) :
    BackupFree v loc (s.fsWith g u) := by
  unfold BackupFree
  rcases hv with hv | hv
  · rw [hv]; exact ⟨.csvBak1, by decide, s.absent g u (by cases loc <;> cases s.csvBak <;> decide)⟩
  · exact ⟨.csvBak, by split <;> decide, s.absent g u (by rw [hv]; cases loc <;> decide)⟩

theorem Shape.fsWith_false (s : Shape) (u : Rel → κ) : s.fsWith false u = s.fs u := List.append_nil _

/-- settings.yaml of a budget shape names `merchants.rules`, `other.rules` or nothing -/
theorem Shape.keyMF_cases (s : Shape) (u : Rel → κ) {sc : Content κ} {r : Rel} (hs : fileAt (s.fs u) ⟨.top, .settings⟩ = some sc)
    (hk : keyMF sc = some r) : r = .rules ∨ r = .other := by
  have hm := mem_of_lookup (lookup_of_fileAt hs)
  simp [Shape.fs, optFile] at hm
  rw [hm.2] at hk
  revert hk
  cases s.settings <;> simp [keyMF, Chunk.keyMF, settingsMeta] <;> exact fun e => by simp [← e]

/-- the legacy CSV of a budget shape is one piece of user content -/
theorem Shape.csv_single (s : Shape) (u : Rel → κ) (loc : Loc) (c : Content κ) (h : fileAt (s.fs u) ⟨loc, .csv⟩ = some c) :
    ∃ a m, c = [.orig a m] := by
  have hm := mem_of_lookup (lookup_of_fileAt h)
  simp [Shape.fs, optFile] at hm
  exact ⟨_, _, hm.2.2⟩

end TallyVerif.Fs
