/-! General facts about core `List` functions that several files need and core does not state: `find?` and `all` under predicates that
agree on the members; `find?` and `filter` of `pre ++ r :: post` when `r` fails the test; `foldl` (skipped elements, first hit, induction
with the prefix consumed); `Nodup`; `dropWhile`/`takeWhile` of `++`; a list kept as an insertion-ordered set
(`if l.contains y then l else l ++ [y]`, which each model writes out under a name of its own). -/

namespace List
variable {α β σ : Type} {p : α → Bool}

theorem find?_congr_mem {l : List α} {q : α → Bool} (h : ∀ x ∈ l, p x = q x) :
    l.find? p = l.find? q := by
  induction l with
  | nil => rfl
  | cons a l ih => simp only [List.find?_cons, h a (by simp), ih fun x hx => h x (by simp [hx])]

theorem all_congr_mem {l : List α} {q : α → Bool} (h : ∀ x ∈ l, p x = q x) :
    l.all p = l.all q := by
  induction l with
  | nil => rfl
  | cons a l ih => simp only [List.all_cons, h a (by simp), ih fun x hx => h x (by simp [hx])]

theorem not_mem_of_all {a : α} (hp : p a = false) {l : List α} (h : l.all p = true) : a ∉ l := by
  intro hm
  have hc := List.all_eq_true.mp h a hm
  rw [hp] at hc; cases hc

theorem all_of_sublist {a b : List α} (h : a.Sublist b) (hb : b.all p = true) : a.all p = true := by
  rw [List.all_eq_true] at *
  exact fun x hx => hb x (h.mem hx)

theorem find?_none_of_forall {l : List α} (h : ∀ x ∈ l, p x = false) : l.find? p = none :=
  List.find?_eq_none.mpr fun x hx => by simp [h x hx]

theorem find?_append_cons_skip {pre post : List α} {r : α} (h : p r = false) :
    (pre ++ r :: post).find? p = (pre ++ post).find? p := by
  simp [List.find?_append, h]

theorem find?_append_cons_first {pre post : List α} {w : α} (hpre : ∀ x ∈ pre, p x = false)
    (hw : p w = true) : (pre ++ w :: post).find? p = some w := by
  simp [List.find?_append, find?_none_of_forall hpre, hw]

theorem filter_filter_append_cons_skip {q : α → Bool} {pre post : List α} (r : α) (h : q r = false) :
    ((pre ++ r :: post).filter p).filter q = ((pre ++ post).filter p).filter q := by
  simp only [List.filter_append, List.filter_cons]
  by_cases hp : p r = true <;> simp [hp, h]

theorem foldl_filter_of_skip {step : σ → α → σ} (h : ∀ s x, p x = false → step s x = s) (l : List α) (s : σ) :
    (l.filter p).foldl step s = l.foldl step s := by
  rw [List.foldl_filter]
  congr; funext s x
  cases hx : p x
  · exact (h s x hx).symm
  · rfl

theorem foldl_first {step : σ → α → σ} {first : σ → Option α}
    (h : ∀ s x, first (step s x) = (first s).or (if p x then some x else none)) (l : List α) (s : σ) :
    first (l.foldl step s) = (first s).or (l.find? p) := by
  induction l generalizing s with
  | nil => simp
  | cons x l ih =>
    rw [List.foldl_cons, ih, h, List.find?_cons]
    cases first s <;> cases p x <;> simp

/-- induction along a `foldl` that remembers the prefix consumed so far -/
theorem foldl_induction (f : β → α → β) (b : β) (P : List α → β → Prop) (nil : P [] b)
    (step : ∀ l a t, P l t → P (l ++ [a]) (f t a)) (l : List α) : P l (l.foldl f b) := by
  suffices ∀ pre t, P pre t → P (pre ++ l) (l.foldl f t) from this [] b nil
  induction l with
  | nil => intro pre t h; rwa [List.append_nil]
  | cons a l ih => intro pre t h; rw [List.append_cons]; exact ih _ _ (step pre a t h)

theorem nodup_concat {l : List α} {a : α} : (l ++ [a]).Nodup ↔ l.Nodup ∧ a ∉ l := by
  rw [List.nodup_append]
  exact ⟨fun h => ⟨h.1, fun ha => h.2.2 a ha a (List.mem_singleton.mpr rfl) rfl⟩,
    fun h => ⟨h.1, List.nodup_cons.mpr ⟨List.not_mem_nil, List.nodup_nil⟩, fun b hb c hc e => h.2 (List.mem_singleton.mp hc ▸ e ▸ hb)⟩⟩

theorem eq_of_nodup_map {f : α → β} : ∀ {l : List α}, (l.map f).Nodup →
    ∀ {x y : α}, x ∈ l → y ∈ l → f x = f y → x = y
  | a :: l, h, x, y, hx, hy, e => by
    rw [List.map_cons, List.nodup_cons] at h
    rcases List.mem_cons.mp hx with rfl | hx' <;> rcases List.mem_cons.mp hy with rfl | hy'
    · rfl
    · exact absurd (e ▸ List.mem_map_of_mem hy') h.1
    · exact absurd (e ▸ List.mem_map_of_mem hx') h.1
    · exact eq_of_nodup_map h.2 hx' hy' e

theorem dropWhile_stops (xs : List α) (c : α) (ys : List α) (hc : p c = false) :
    ∃ zs, (xs ++ c :: ys).dropWhile p = zs ++ c :: ys := by
  induction xs with
  | nil => exact ⟨[], by simp [hc]⟩
  | cons x xs ih =>
    by_cases hx : p x = true
    · obtain ⟨zs, hz⟩ := ih
      exact ⟨zs, by simp [hx, hz]⟩
    · exact ⟨x :: xs, by simp [hx]⟩

theorem dropWhile_append_right (a b : List α) (h : b.all p = true) :
    (a ++ b).dropWhile p = a.dropWhile p ++ if (a.dropWhile p).isEmpty then [] else b := by
  induction a with
  | nil => simpa using List.dropWhile_append_of_pos (l₂ := []) (List.all_eq_true.mp h)
  | cons c t ih => by_cases hc : p c = true <;> simp [hc, ih]

theorem takeWhile_append_right (a b : List α) (h : b.all p = true) :
    (a ++ b).takeWhile p = a.takeWhile p ++ if (a.dropWhile p).isEmpty then b else [] := by
  induction a with
  | nil => simpa using List.takeWhile_append_of_pos (l₂ := []) (List.all_eq_true.mp h)
  | cons c t ih => by_cases hc : p c = true <;> simp [hc, ih]

theorem mem_addIfNew [BEq α] [LawfulBEq α] {x y : α} {l : List α} :
    x ∈ (if l.contains y then l else l ++ [y]) ↔ x ∈ l ∨ x = y := by
  split
  · next h => exact ⟨.inl, fun h' => h'.elim id (· ▸ by simpa using h)⟩
  · simp

theorem mem_foldl_addIfNew [BEq α] [LawfulBEq α] {x : α} (l acc : List α) :
    x ∈ l.foldl (fun acc y => if acc.contains y then acc else acc ++ [y]) acc ↔ x ∈ acc ∨ x ∈ l := by
  induction l generalizing acc with
  | nil => simp
  | cons a l ih => rw [List.foldl_cons, ih, mem_addIfNew, List.mem_cons, or_assoc]

end List
