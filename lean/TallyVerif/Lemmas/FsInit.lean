import TallyVerif.Lemmas.FsMigration
import TallyVerif.Lemmas.FsFault
/-!
C15 for `tally init` in `./`, on an ARBITRARY tree (`init_crash_safe`, `init_fault_safe`).  No content is lost at any crash state
(`InitKeeps`, C20's invariant).  Only the migration step could change what the budget classifies with, and in the reordered
migration it does not (`Mid.steady` of `Lemmas/FsMigration.lean`).  What follows it, `init_config` and the views append, creates what is missing and appends chunks that
`load_config` does not read, so a tree that classifies as the user's budget did stays so (`classifiesB_of_steady`) — whether the step
ended, or an `OSError` inside it was swallowed by its handler (`init_fault_cases`), or there was no such step.
-/
namespace TallyVerif.Fs
variable {κ : Type}

theorem inert_of_tornViews {t : Content κ} (ht : t ∈ tornLines .vfComment .vfKey) : ∀ ch ∈ t, ch.Inert := by
  simp only [tornLines, List.mem_cons, List.not_mem_nil, or_false] at ht
  rcases ht with rfl | rfl | rfl | rfl <;> simp [Chunk.Inert, Chunk.keyMF]

/-- `init_config` and the views append, from any tree `ref`: at the end and in every crash state on the way, what is new is at a free
    name that `init` creates, or is an inert chunk at the end of settings.yaml.  (Not through `Ends.configStage`: its `Torn` does not
    say which chunks a torn append has left, and here that matters.) -/
theorem configStage_grows (ref : FS κ) :
    Ends (InitGrows Chunk.Inert .top ref) (fun m => initConfig .top m ⊳ tryLast (viewsAppendBody .top)) ref
      (InitGrows Chunk.Inert .top ref) :=
  (Ends.initConfig (fun _ hr => Grows.creatable fun hn => ⟨hn, .tail _ (.tail _ hr)⟩) (Grows.creatable fun hn => ⟨hn, .head _⟩) .refl).seq
    fun _ h => .tryLast (.viewsAppendBody (fun _ hc _ ht => h.append (.inl rfl) hc (inert_of_tornViews ht))
      (fun _ _ h hc => h.append (.inl rfl) hc (inert_of_tornViews torn_full)) h)

variable [DecidableEq κ]

/-- what the two theorems ask of a budget in `./` -/
structure InitReady (v : Variants) (fs₀ : FS κ) : Prop where
  config : isDir fs₀ ⟨.top, .configDir⟩ = true
  once : Once fs₀
  /-- a key in settings.yaml does not name settings.yaml itself and, where `init` migrates, names a file that is missing or one the
      migration does not touch -/
  key : ∀ sc r, fileAt fs₀ ⟨.top, .settings⟩ = some sc → keyMF sc = some r →
    r ≠ .settings ∧ (initMigrates .top fs₀ = true → fileAt fs₀ ⟨.top, r⟩ = none ∨ r ∉ migrationNames)
  /-- where `init` migrates, the names it needs are free (as for `init_keeps`) -/
  free : initMigrates .top fs₀ = true → lookup fs₀ ⟨.top, .rulesTmp⟩ = none ∧ BackupFree v.csv .top fs₀
  /-- the migration renames the new file into place before it writes the key, moves the CSV away last, and looks for the key itself -/
  order : v.csv.reorder = true ∧ v.csv.keyCheck = true
  /-- the legacy CSV is one piece of user content (of which `migratedChunk` is the conversion) -/
  single : ∀ c, fileAt fs₀ ⟨.top, .csv⟩ = some c → ∃ a m, c = [.orig a m]

/-- what holds of every crash state of `tally init` up to `init_config`: nothing is lost, and the budget classifies as before through
    `./config` -/
def Kept (fs₀ y : FS κ) : Prop := InitKeeps .top fs₀ y ∧ Steady fs₀ y

variable {v : Variants} {fs₀ : FS κ}

theorem Kept.safe (ho : Once fs₀) {ref y : FS κ} (hs : Steady fs₀ ref) (hk : InitKeeps .top fs₀ y)
    (g : InitGrows Chunk.Inert .top ref y) : Safe v .init fs₀ y :=
  safe_iff.mpr ⟨preserved_of_keeps ho hk, classifiesB_of_steady v .init hs g⟩

theorem Kept.configStage (ho : Once fs₀) {ref : FS κ} (h : Kept fs₀ ref) :
    Ends (Safe v .init fs₀) (fun m => initConfig .top m ⊳ tryLast (viewsAppendBody .top)) ref (Safe v .init fs₀) :=
  (h.1.configStage.and (configStage_grows ref)).imp fun _ g => Kept.safe ho h.2 g.1 g.2

theorem InitReady.kept (R : InitReady v fs₀) : Kept fs₀ fs₀ :=
  ⟨⟨fs₀, .inl rfl, .refl⟩, fun hu => ⟨Eff.equiv_refl _, hu, R.config, fun sc hs e => (R.key sc _ hs e).1 rfl⟩⟩

/-- the migration step, where it takes place: nothing is lost (`migration_keeps`), and the budget classifies as before, the CSV being
    in effect till the key is written (`Mid.steady`) -/
theorem InitReady.migration (R : InitReady v fs₀) (hm : initMigrates .top fs₀ = true) :
    Ends (Kept fs₀) (migrateCsvBody v.csv .top) fs₀ (Kept fs₀) := by
  obtain ⟨⟨c₀, hc⟩, hr⟩ := initMigrates_reads hm
  have keeps := migration_keeps v.csv hc hr (R.free hm).1 (R.free hm).2
  cases hs : fileAt fs₀ ⟨.top, .settings⟩ with
  | none =>
    -- no settings.yaml: the budget did not classify at all
    exact keeps.imp fun y h => ⟨h, fun hu => by simp [effective, findConfigDir, R.config, hs, RuleSrc.usable] at hu⟩
  | some sc =>
    exact (keeps.and (migration_mid v.csv R.order.1 R.order.2 hs hc)).imp fun y h =>
      ⟨h.1, h.2.steady R.config hs hc (fun r e => ⟨(R.key sc r hs e).1, (R.key sc r hs e).2 hm⟩) fun _ => R.single c₀ hc⟩

/-- the state in which `tally init` comes to `init_config`: between two statements; `Kept` holds of its tree and of every crash state
    of every snapshot so far -/
theorem InitReady.to_config (R : InitReady v fs₀) :
    ∃ m₁, (if initMigrates .top fs₀ then (migrateCsv v.csv .top (start fs₀)).1 else start fs₀) = m₁ ∧ Quiet m₁ ∧
      ∀ s ∈ ⟨m₁.fs, none⟩ :: snaps fs₀ m₁, ∀ part, Kept fs₀ (materialize part s) := by
  cases hm : initMigrates .top fs₀ with
  | false =>
    refine ⟨_, rfl, ⟨rfl, rfl⟩, fun s hs _ => ?_⟩
    obtain rfl : s = ⟨fs₀, none⟩ := (List.mem_cons.mp hs).elim id List.mem_singleton.mp
    exact R.kept
  | true =>
    obtain ⟨m₁, e₁, h⟩ := (R.migration hm).tryLast.start R.kept
    exact ⟨m₁, by rw [if_pos rfl]; exact congrArg Res.m e₁, h⟩

omit [DecidableEq κ] in
/-- a budget shape is `InitReady` for the reordered migration that looks for a free backup name (a shape has no `.bak.1`) -/
theorem Shape.initReady (s : Shape) (u : Rel → κ) (hv : v.csv.fresh = true) (ho : v.csv.reorder = true ∧ v.csv.keyCheck = true) :
    InitReady v (s.fs u) where
  config := rfl
  once := s.fsWith_false u ▸ s.once false u
  key sc r hs hk := by
    -- a shape's key names rules.csv, which `init` does not migrate over, or the statement file
    rcases s.keyMF_cases u hs hk with rfl | rfl
    · exact ⟨nofun, fun hm => .inl (by rw [fileAt, (initMigrates_reads hm).2])⟩
    · exact ⟨nofun, fun _ => .inr (by decide)⟩
  free _ := s.fsWith_false u ▸ ⟨s.absent false u (by cases s.csvBak <;> decide), s.backupFree false u (.inl hv)⟩
  order := ho
  single := s.csv_single u .top

/-- C15 for `tally init`, interruption clause, on any tree that is `InitReady` -/
theorem init_crash_safe (R : InitReady v fs₀) (k : Nat) (part : Partial) : Safe v .init fs₀ (crashAt v .init fs₀ k part) := by
  obtain ⟨m₁, e₁, q₁, c₁⟩ := R.to_config
  obtain ⟨m₂, t₂, e₂, -, f₂, hh₂, c₂⟩ := Kept.configStage (v := v) R.once (c₁ _ (.head _) .full) m₁ rfl q₁
  have ec : complete v .init fs₀ = m₂ := by
    rw [complete_init v (loc := .top) (by rw [initLoc, R.config]; rfl), cmdInit_eq]
    show (initConfig .top (if initMigrates .top fs₀ then (migrateCsv v.csv .top (start fs₀)).1 else start fs₀) ⊳ _).m = m₂
    rw [e₁, show initConfig .top m₁ ⊳ tryLast (viewsAppendBody .top) = .ok m₂ from e₂]; rfl
  obtain ⟨s, hs, es⟩ := crashAt_mem v .init fs₀ k part
  rw [es]
  rw [ec, show snaps fs₀ m₂ = snaps fs₀ m₁ ++ t₂ by rw [snaps, hh₂]; rfl] at hs
  rcases List.mem_cons.mp hs with rfl | hs
  · exact f₂
  · refine (List.mem_append.mp hs).elim (fun h => ?_) (fun h => c₂ s h part)
    -- a crash before `init_config`
    have ⟨hk, hst⟩ := c₁ s (.tail _ h) part
    exact Kept.safe R.once hst hk .refl

/-- C15 for `tally init`, I/O-error clause, on any tree that is `InitReady` -/
theorem init_fault_safe (R : InitReady v fs₀) (k : Nat) : Safe v .init fs₀ (faultAt v .init fs₀ k).1 := by
  rcases init_fault_cases v (loc := .top) (by rw [initLoc, R.config]; rfl) k with ⟨j, e⟩ | ⟨hm, q, s, hs, hq, quiet, e⟩
  · exact e ▸ init_crash_safe R j .full
  · -- the migration step failed in a snapshot `s` of its own; `init` goes on from there, unarmed
    obtain ⟨m₁, e₁, -, c₁⟩ := R.to_config
    rw [hm, if_pos rfl] at e₁
    obtain ⟨m₂, -, e₂, q₂, f₂, -⟩ := Kept.configStage (v := v) R.once (hq ▸ c₁ s (.tail _ (e₁ ▸ hs)) .full) q rfl quiet
    rw [e, show initConfig .top q ⊳ tryLast (viewsAppendBody .top) = .ok m₂ from e₂, Res.closed, Res.m, q₂.1]
    exact f₂

end TallyVerif.Fs
