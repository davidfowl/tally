/-
Lemmas for C18 (format strings).  First what the string primitives do, each read in both directions: `splitComma` against
`joinComma`, `strip`, `keys`/`lookup` of the two dictionaries, and the token matcher (`matchTok_tokText`, `matchTok_some`).
Then two halves, both resting on `step_eq`, which states `Impl.step` as one decision on the lower-cased name.  Forward: a rendered
arrangement is split, stripped and matched back column by column (`tok_render`), the loop over it ends in the state `accum`
computes (`loop_render`), and `finish` turns that into the arrangement's intended reading (`finish_spec`).  Backward, for
arbitrary strings: a step and `Impl.finish` that succeed are characterised once (`step_ok`, `finish_ok`), and the dictionaries of
an accepted string are exactly its named pieces (`loop_ok_entries`, `loop_ok_mem`); `parseFormat_accepted` collects what every
accepted string has.
-/
import TallyVerif.Model.Fmt
import TallyVerif.Lemmas.Lists

namespace TallyVerif.Fmt
open TallyVerif.Gen

theorem splitComma_ne_nil (s : Str) : splitComma s ≠ [] := by
  fun_induction splitComma s <;> simp

theorem splitComma_comma (s : Str) : splitComma (',' :: s) = [] :: splitComma s := by
  cases h : splitComma s with
  | nil => exact absurd h (splitComma_ne_nil s)
  | cons p ps => simp [splitComma, h]

theorem splitComma_append (p : Str) (hp : ',' ∉ p) (rest q : Str) (qs : List Str)
    (h : splitComma rest = q :: qs) : splitComma (p ++ rest) = (p ++ q) :: qs := by
  induction p with
  | nil => simpa using h
  | cons c cs ih =>
    rw [List.mem_cons, not_or] at hp
    simp [splitComma, ih hp.2, Ne.symm hp.1]

theorem splitComma_joinComma (parts : List Str) (hne : parts ≠ []) (hp : ∀ p ∈ parts, ',' ∉ p) :
    splitComma (joinComma parts) = parts := by
  fun_induction joinComma parts with
  | case1 => exact absurd rfl hne
  | case2 p => simpa using splitComma_append p (hp p (by simp)) [] [] [] rfl
  | case3 p q r ih =>
    have ih' := ih (by simp) (fun x hx => hp x (List.mem_cons_of_mem _ hx))
    simpa using splitComma_append p (hp p (by simp)) _ [] (q :: r) (by rw [splitComma_comma, ih'])

theorem splitComma_no_comma (s : Str) : ∀ p ∈ splitComma s, ',' ∉ p := by
  fun_induction splitComma s with
  | case1 => simp
  | case2 => simp
  | case3 cs q qs hq ih => rw [hq] at ih; simpa using ih                        -- a comma: a new, empty piece
  | case4 c cs q qs hq hc ih => rw [hq] at ih; simpa [Ne.symm hc] using ih      -- `c ≠ ','` joins the first piece

theorem strip_token (e : Ext) (pre body rest : Str) (a z : Char)
    (hpre : pre.all e.isSpace = true) (ha : e.isSpace a = false) (hz : e.isSpace z = false) :
    ∃ r', strip e (pre ++ (a :: (body ++ [z]) ++ rest)) = a :: (body ++ [z]) ++ r' := by
  unfold strip
  rw [List.dropWhile_append_of_pos (List.all_eq_true.mp hpre)]
  have h1 : (a :: (body ++ [z]) ++ rest).dropWhile e.isSpace = a :: (body ++ [z]) ++ rest := by
    simp [ha]
  rw [h1]
  have h2 : (a :: (body ++ [z]) ++ rest).reverse = rest.reverse ++ z :: (a :: body).reverse := by simp
  rw [h2]
  obtain ⟨zs, hzs⟩ := List.dropWhile_stops (p := e.isSpace) rest.reverse z (a :: body).reverse hz
  rw [hzs]
  exact ⟨zs.reverse, by simp⟩

theorem strip_subset (e : Ext) (s : Str) : ∀ c ∈ strip e s, c ∈ s := by
  intro c hc
  unfold strip at hc
  have h1 := (List.dropWhile_sublist e.isSpace).subset (List.mem_reverse.mp hc)
  exact (List.dropWhile_sublist e.isSpace).subset (List.mem_reverse.mp h1)

theorem keys_append (a b : List (Str × Nat)) : keys (a ++ b) = keys a ++ keys b := by simp [keys]

theorem mem_keys {k : Str} {l : List (Str × Nat)} : k ∈ keys l ↔ ∃ v, (k, v) ∈ l := by simp [keys]

theorem contains_keys (k : Str) (l : List (Str × Nat)) : (keys l).contains k = (lookup k l).isSome := by
  induction l with
  | nil => rfl
  | cons a l ih =>
    rw [keys, List.map_cons, List.contains_cons, ← keys, ih, lookup]
    by_cases h : a.1 = k
    · rw [if_pos h, h, beq_self_eq_true]; rfl
    · rw [if_neg h, beq_false_of_ne (Ne.symm h), Bool.false_or]

theorem lookup_mem {k : Str} {v : Nat} {l : List (Str × Nat)} (h : lookup k l = some v) : (k, v) ∈ l := by
  revert h
  fun_induction lookup k l <;> intro h
  · cases h
  · cases h; simp [*]
  · simp [*]

theorem isSpace_ascii (e : Ext) {c : Char} (h : isAscii c = true) : e.isSpace c = asciiSpace c := by
  simp [Ext.isSpace, h]
theorem isWord_ascii (e : Ext) {c : Char} (h : isAscii c = true) : e.isWord c = asciiWord c := by
  simp [Ext.isWord, h]

theorem isSpace_lbrace (e : Ext) : e.isSpace '{' = false := by rw [isSpace_ascii e (by decide)]; decide
theorem isSpace_rbrace (e : Ext) : e.isSpace '}' = false := by rw [isSpace_ascii e (by decide)]; decide
theorem isSpace_comma (e : Ext) : e.isSpace ',' = false := by rw [isSpace_ascii e (by decide)]; decide
theorem isWord_rbrace (e : Ext) : e.isWord '}' = false := by rw [isWord_ascii e (by decide)]; decide
theorem isWord_colon (e : Ext) : e.isWord ':' = false := by rw [isWord_ascii e (by decide)]; decide
theorem isWord_star (e : Ext) : e.isWord '*' = false := by rw [isWord_ascii e (by decide)]; decide
theorem isWord_minus (e : Ext) : e.isWord '-' = false := by rw [isWord_ascii e (by decide)]; decide
theorem isWord_plus (e : Ext) : e.isWord '+' = false := by rw [isWord_ascii e (by decide)]; decide
theorem isWord_comma (e : Ext) : e.isWord ',' = false := by rw [isWord_ascii e (by decide)]; decide
theorem isWord_lbrace (e : Ext) : e.isWord '{' = false := by rw [isWord_ascii e (by decide)]; decide

theorem takeSign_signChars (s : Option Char) (hs : Spec.okSign s = true) (c : Char) (x : Str)
    (h1 : c ≠ '-') (h2 : c ≠ '+') : takeSign (Spec.signChars s ++ c :: x) = (s, c :: x) := by
  simp only [Spec.okSign, Bool.or_eq_true, decide_eq_true_eq] at hs
  rcases hs with (rfl | rfl) | rfl <;> simp [Spec.signChars, takeSign, h1, h2]

/-- The second part is for `takeSign` in front of the name (`matchTok_tokText`): a name does not begin with a sign. -/
theorem takeName_name (e : Ext) (name : Str) (hn : name = sStar ∨ (name ≠ [] ∧ name.all e.isWord = true))
    (c : Char) (hc : e.isWord c = false) (r : Str) :
    takeName e (name ++ c :: r) = some (name, c :: r) ∧ ∃ a as, name = a :: as ∧ a ≠ '-' ∧ a ≠ '+' := by
  rcases hn with rfl | ⟨hne, hw⟩
  · exact ⟨by simp [takeName, sStar], '*', [], rfl, by decide, by decide⟩
  · cases name with
    | nil => exact absurd rfl hne
    | cons a as =>
      have hw := List.all_eq_true.mp hw
      have ha := hw a List.mem_cons_self
      have hnot : ∀ x, e.isWord x = false → a ≠ x := fun x hx h => by rw [h, hx] at ha; cases ha
      refine ⟨?_, a, as, rfl, hnot _ (isWord_minus e), hnot _ (isWord_plus e)⟩
      simp only [List.cons_append, takeName, if_neg (hnot _ (isWord_star e))]
      rw [← List.cons_append, List.takeWhile_append_of_pos hw, List.dropWhile_append_of_pos hw]
      simp [hc]

theorem okSpec_elim {f : Str} (h : Spec.okSpec (some f) = true) : f.isEmpty = false ∧ '}' ∉ f ∧ ',' ∉ f := by
  simpa [Spec.okSpec, and_assoc] using h

theorem takeSpec_specChars (spec : Option Str) (h : Spec.okSpec spec = true) (r : Str) :
    takeSpec (Spec.specChars spec ++ '}' :: r) = some spec := by
  cases spec with
  | none => simp [Spec.specChars, takeSpec]
  | some f =>
    obtain ⟨hfe, hbr, _⟩ := okSpec_elim h
    have hall : ∀ x ∈ f, (x != '}') = true := fun x hx => bne_iff_ne.mpr fun hxe => hbr (hxe ▸ hx)
    simp only [Spec.specChars, List.cons_append, takeSpec]
    rw [List.takeWhile_append_of_pos hall, List.dropWhile_append_of_pos hall]
    simp [hfe]

theorem matchTok_tokText (e : Ext) {sign : Option Char} {name : Str} {spec : Option Str} {r : Str}
    (hs : Spec.okSign sign = true) (hn : name = sStar ∨ (name ≠ [] ∧ name.all e.isWord = true))
    (hsp : Spec.okSpec spec = true) :
    matchTok e (Spec.tokText sign name spec ++ r) = some ⟨sign, name, spec⟩ := by
  obtain ⟨c, x, hcx, hcw⟩ : ∃ c x, Spec.specChars spec ++ '}' :: r = c :: x ∧ e.isWord c = false := by
    cases spec with
    | none => exact ⟨'}', r, rfl, isWord_rbrace e⟩
    | some f => exact ⟨':', f ++ '}' :: r, rfl, isWord_colon e⟩
  obtain ⟨hname, a, as, rfl, hm, hp⟩ := takeName_name e name hn c hcw x
  have hsign := takeSign_signChars sign hs a (as ++ (Spec.specChars spec ++ '}' :: r)) hm hp
  rw [← hcx] at hname
  simp only [Spec.tokText, List.cons_append, List.append_assoc, List.nil_append, matchTok, if_true, hsign]
  simp only [List.cons_append] at hname
  simp only [hname, takeSpec_specChars spec hsp r]

theorem takeSign_eq (r : Str) : r = Spec.signChars (takeSign r).1 ++ (takeSign r).2 := by
  fun_cases takeSign r <;> rfl

theorem takeName_some {e : Ext} {r name rest : Str} (h : takeName e r = some (name, rest)) : r = name ++ rest := by
  revert h
  fun_cases takeName e r <;> intro h <;> cases h
  · rfl                                                                 -- `*`
  · exact (List.takeWhile_append_dropWhile (p := e.isWord)).symm        -- a word

theorem takeSpec_some {r : Str} {sp : Option Str} (h : takeSpec r = some sp) : ∃ r', r = Spec.specChars sp ++ '}' :: r' := by
  revert h
  fun_cases takeSpec r <;> intro h <;> cases h
  · exact ⟨_, rfl⟩               -- `}` at once
  · rename_i cs _ x xs hd _      -- `:f`, then `x :: xs` where `takeWhile (· != '}')` stopped: `x` is the brace
    have hx : x = '}' := by
      have := List.head_dropWhile_not (· != '}') (l := cs) (by simp [hd])
      simpa [hd] using this
    subst hx
    exact ⟨xs, by rw [Spec.specChars, List.cons_append, ← hd, List.takeWhile_append_dropWhile]⟩

theorem matchTok_some {e : Ext} {s : Str} {t : RawTok} (h : matchTok e s = some t) :
    ∃ r, s = Spec.tokText t.sign t.name t.spec ++ r := by
  revert h
  fun_cases matchTok e s <;> intro h <;> cases h
  rename_i r name r2 hn sp hs
  obtain ⟨r', hr'⟩ := takeSpec_some hs
  refine ⟨r', ?_⟩
  rw [Spec.tokText, List.cons_append]
  conv => lhs; rw [takeSign_eq r, takeName_some hn, hr']
  simp

open Spec

theorem okName_elim {e : Ext} {w c : Str} (h : okName e w c = true) :
    w ≠ [] ∧ w.all e.isWord = true ∧ e.lower w = c := by
  simp only [okName, Bool.and_eq_true, Bool.not_eq_true', beq_iff_eq] at h
  exact ⟨by intro hw; simp [hw] at h, h.1.2, h.2⟩

/-- the canonical (lower-case) name the parser sees for a column -/
def canonName : Col → Str
  | .date _ => sDate
  | .description => sDescription
  | .amount _ => sAmount
  | .location => sLocation
  | .custom n => n
  | .skip => sUnderscore

theorem SpOK_parts {e : Ext} {p : Col × Sp} (h : SpOK e p = true) :
    p.2.pre.all e.isSpace = true ∧ ',' ∉ p.2.rest ∧ okSign p.2.sign = true ∧ okSpec (p.1.specOf p.2) = true ∧
    ((p.1 = .skip ∧ p.2.name = sStar) ∨ okName e p.2.name (canonName p.1) = true) := by
  obtain ⟨c, sp⟩ := p
  simp only [SpOK, Bool.and_eq_true, Bool.not_eq_true', List.contains_eq_mem, decide_eq_false_iff_not] at h
  obtain ⟨⟨⟨⟨h1, h2⟩, h3⟩, h4⟩, h5⟩ := h
  refine ⟨h1, h2, h3, h4, ?_⟩
  cases c with
  | skip =>
    simp only [Bool.or_eq_true, beq_iff_eq] at h5
    exact h5.imp_left (⟨rfl, ·⟩)
  | _ => exact Or.inr h5

theorem okSign_signOf {e : Ext} {p : Col × Sp} (h : SpOK e p = true) : okSign (p.1.signOf p.2) = true := by
  obtain ⟨-, -, h3, -⟩ := SpOK_parts h
  obtain ⟨c, sp⟩ := p
  cases c with
  | amount s => cases s <;> rfl       -- the sign the column asks for
  | _ => exact h3                     -- the sign as spelt, which the parser ignores

theorem tokText_braces (sign : Option Char) (name : Str) (spec : Option Str) :
    tokText sign name spec = '{' :: ((signChars sign ++ (name ++ specChars spec)) ++ ['}']) := by
  simp [tokText]

theorem tok_render (e : Ext) (p : Col × Sp) (h : SpOK e p = true) :
    matchTok e (strip e (renderCol p)) = some ⟨p.1.signOf p.2, p.2.name, p.1.specOf p.2⟩ := by
  obtain ⟨hpre, _, _, hspec, hname⟩ := SpOK_parts h
  obtain ⟨r', hr'⟩ := strip_token e p.2.pre (signChars (p.1.signOf p.2) ++ (p.2.name ++ specChars (p.1.specOf p.2)))
    p.2.rest '{' '}' hpre (isSpace_lbrace e) (isSpace_rbrace e)
  rw [renderCol, tokText_braces, hr', ← tokText_braces]
  apply matchTok_tokText e (okSign_signOf h) _ hspec
  rcases hname with ⟨_, hn⟩ | hn
  · exact Or.inl hn
  · exact Or.inr ⟨(okName_elim hn).1, (okName_elim hn).2.1⟩

theorem renderCol_no_comma (e : Ext) (p : Col × Sp) (h : SpOK e p = true) : ',' ∉ renderCol p := by
  obtain ⟨hpre, hrest, _, hspec, hname⟩ := SpOK_parts h
  have hsign := okSign_signOf h
  have h1 : ',' ∉ p.2.pre := List.not_mem_of_all (isSpace_comma e) hpre
  have h2 : ',' ∉ signChars (p.1.signOf p.2) := by
    simp only [okSign, Bool.or_eq_true, decide_eq_true_eq] at hsign
    rcases hsign with (hs | hs) | hs <;> rw [hs] <;> simp [signChars]
  have h3 : ',' ∉ p.2.name := by
    rcases hname with ⟨_, hn⟩ | hn
    · rw [hn]; decide
    · exact List.not_mem_of_all (isWord_comma e) (okName_elim hn).2.1
  have h4 : ',' ∉ specChars (p.1.specOf p.2) := by
    cases hsp : p.1.specOf p.2 with
    | none => simp [specChars]
    | some f =>
      rw [hsp] at hspec
      simp [specChars, (okSpec_elim hspec).2.2]
  simp only [renderCol, tokText, List.mem_append, List.mem_cons, not_or]
  refine ⟨h1, ⟨by decide, h2, h3, h4, ?_⟩, hrest⟩
  simp

abbrev isSkipName (n : Str) : Prop := n = sUnderscore ∨ n = sStar

theorem skip_reserved {n : Str} (h : isSkipName n) : n ∈ FmtTables.RESERVED_NAMES := by
  rcases h with rfl | rfl <;> decide

/-- the state after the reserved word `n`, read as the token `t`, is entered at `idx` -/
def enter (n : Str) (idx : Nat) (t : RawTok) (st : St) : St :=
  { fields := st.fields ++ [(n, idx)], customs := st.customs
    dateFormat := if n = sDate then (match t.spec with
                                     | some f => if f.isEmpty then st.dateFormat else f
                                     | none => st.dateFormat) else st.dateFormat
    negate := st.negate || (n = sAmount && t.sign = some '-')
    abs := st.abs || (n = sAmount && t.sign = some '+') }

/-- `Impl.step` as one decision on the lower-cased name: skipped, a reserved word (repeated, or entered by `enter` in place of
the three `let`s) or a capture (repeated, or appended).  The right side is given its type: with the type of the `if` left to
unification the statement alone is slow to elaborate. -/
theorem step_eq (e : Ext) (idx : Nat) (st : St) (t : RawTok) :
    Impl.step e idx st t =
      (if isSkipName (e.lower t.name) then .ok st
       else if e.lower t.name ∈ FmtTables.RESERVED_NAMES then
         if e.lower t.name ∈ keys st.fields then .error (.dupField idx) else .ok (enter (e.lower t.name) idx t st)
       else if e.lower t.name ∈ keys st.customs then .error (.dupCustom idx)
       else .ok { st with customs := st.customs ++ [(e.lower t.name, idx)] } : Except Err St) := by
  -- each branch of `step` comes with its guards; they decide the `if`s on the right, and four of the five leaves then agree
  fun_cases Impl.step e idx st t <;>
    simp +zetaDelta only [Bool.or_eq_true, decide_eq_true_eq, List.contains_eq_mem] at * <;>
    simp only [isSkipName, *, if_true, if_false]
  -- left: the reserved word entered; its three `let`s against the fields of `enter`
  obtain ⟨sign, name, spec⟩ := t
  generalize e.lower name = n
  have hda : sDate ≠ sAmount := by decide
  congr 1
  by_cases hd : n = sDate
  · subst hd
    cases spec with
    | none => simp [enter, hda]
    | some f => by_cases hf : f = [] <;> simp [enter, hda, hf]
  · by_cases ha : n = sAmount
    · subst ha
      by_cases hm : sign = some '-'
      · simp [enter, hda.symm, hm]
      · by_cases hp : sign = some '+' <;> simp [enter, hda.symm, hm, hp]
    · simp [enter, hd, ha]

/-- the state after a column, as the arrangement says -/
def upd (idx : Nat) (st : St) : Col → St
  | .date f => { st with fields := st.fields ++ [(sDate, idx)], dateFormat := f.getD st.dateFormat }
  | .description => { st with fields := st.fields ++ [(sDescription, idx)] }
  | .amount s => { st with fields := st.fields ++ [(sAmount, idx)],
                           negate := st.negate || s == .negate, abs := st.abs || s == .abs }
  | .location => { st with fields := st.fields ++ [(sLocation, idx)] }
  | .custom n => { st with customs := st.customs ++ [(n, idx)] }
  | .skip => st

/-- the state after a list of columns, the first of them at position `idx`: `upd`, column by column -/
def accum : Nat → St → List Col → St
  | _, st, [] => st
  | idx, st, c :: cs => accum (idx + 1) (upd idx st c) cs

theorem step_render (e : Ext) (idx : Nat) (st : St) (p : Col × Sp) (h : SpOK e p = true)
    (hres : ∀ n, p.1.customName = some n → FmtTables.RESERVED_NAMES.contains n = false)
    (hf : ∀ n, p.1.fieldName = some n → n ∉ keys st.fields)
    (hc : ∀ n, p.1.customName = some n → n ∉ keys st.customs) :
    Impl.step e idx st ⟨p.1.signOf p.2, p.2.name, p.1.specOf p.2⟩ = .ok (upd idx st p.1) := by
  rw [step_eq]
  obtain ⟨-, -, -, hspec, ⟨hs, hn⟩ | hn⟩ := SpOK_parts h
  · -- a skipped column spelt `*`
    have hl : e.lower p.2.name = sStar := by rw [hn]; unfold Ext.lower; rw [if_pos (by decide)]; decide
    rw [hs]; exact if_pos (Or.inr hl)
  · -- a spelling of the column's canonical name
    have hl := (okName_elim hn).2.2
    obtain ⟨c, sp⟩ := p
    have hne : sDate ≠ sAmount ∧ sAmount ≠ sDate ∧ sDescription ≠ sDate ∧ sDescription ≠ sAmount ∧
        sLocation ≠ sDate ∧ sLocation ≠ sAmount := by decide
    cases c <;> simp only [hl, canonName]
    case skip => exact if_pos (Or.inl rfl)
    case custom n =>
      have hr : n ∉ FmtTables.RESERVED_NAMES := by simpa using hres n rfl
      rw [if_neg (fun h => hr (skip_reserved h)), if_neg hr, if_neg (hc n rfl)]
      rfl
    -- a reserved word: not `_`/`*`, reserved, fresh by `hf`; then `enter` against `upd`, field by field
    all_goals rw [if_neg (by decide), if_pos (by decide), if_neg (hf _ rfl)]
    case date f =>
      cases f with
      | none => simp [enter, upd, Col.specOf, hne]
      | some f =>
        simp [enter, upd, Col.specOf, (okSpec_elim hspec).1, hne]
    case amount s => cases s <;> simp [enter, upd, Col.signOf, hne]
    all_goals simp [enter, upd, hne]

theorem keys_upd {idx : Nat} {st : St} {c : Col} :
    keys (upd idx st c).fields = keys st.fields ++ c.fieldName.toList ∧
    keys (upd idx st c).customs = keys st.customs ++ c.customName.toList := by
  cases c <;> simp [upd, keys, Col.fieldName, Col.customName, Option.toList]

theorem fieldNames_cons (c : Col) (cs : List Col) :
    fieldNames (c :: cs) = c.fieldName.toList ++ fieldNames cs := by
  simp only [fieldNames, List.filterMap_cons]; cases c.fieldName <;> simp [Option.toList]

theorem customNames_cons (c : Col) (cs : List Col) :
    customNames (c :: cs) = c.customName.toList ++ customNames cs := by
  simp only [customNames, List.filterMap_cons]; cases c.customName <;> simp [Option.toList]

theorem loop_render (e : Ext) (scs : List (Col × Sp)) (idx : Nat) (st : St)
    (hsp : ∀ p ∈ scs, SpOK e p = true)
    (hres : ∀ n ∈ customNames (scs.map Prod.fst), FmtTables.RESERVED_NAMES.contains n = false)
    (hf : (keys st.fields ++ fieldNames (scs.map Prod.fst)).Nodup)
    (hc : (keys st.customs ++ customNames (scs.map Prod.fst)).Nodup) :
    Impl.loop e idx st (scs.map renderCol) = .ok (accum idx st (scs.map Prod.fst)) := by
  induction scs generalizing idx st with
  | nil => rfl
  | cons p ps ih =>
    have hp := hsp p (by simp)
    simp only [List.map_cons, fieldNames_cons, customNames_cons] at hres hf hc
    have fresh : ∀ {l r : List Str} {o : Option Str} {n}, (l ++ (o.toList ++ r)).Nodup → o = some n → n ∉ l :=
      fun h ho hm => (List.nodup_append.mp h).2.2 _ hm _ (by simp [ho]) rfl
    have hstep := step_render e idx st p hp (fun n hn => hres n (by simp [hn])) (fun n => fresh hf) (fun n => fresh hc)
    simp only [List.map_cons, Impl.loop, tok_render e p hp, hstep, accum]
    apply ih
    · intro q hq; exact hsp q (by simp [hq])
    · intro n hn; exact hres n (by simp [hn])
    · rw [keys_upd.1, List.append_assoc]; exact hf
    · rw [keys_upd.2, List.append_assoc]; exact hc

/-- `(reserved word, position)` of the field columns, in order: what `customsFrom` is for the capture columns -/
def fieldsFrom : Nat → List Col → List (Str × Nat)
  | _, [] => []
  | i, c :: cs => (match c.fieldName with | some n => [(n, i)] | none => []) ++ fieldsFrom (i + 1) cs

theorem accum_dicts (cols : List Col) (idx : Nat) (st : St) :
    (accum idx st cols).fields = st.fields ++ fieldsFrom idx cols ∧
    (accum idx st cols).customs = st.customs ++ customsFrom idx cols := by
  fun_induction accum idx st cols with
  | case1 => simp [fieldsFrom, customsFrom]
  | case2 idx st c cs ih => rw [ih.1, ih.2]; cases c <;> simp [upd, fieldsFrom, customsFrom, Col.fieldName]

theorem keys_customsFrom (cols : List Col) (i : Nat) : keys (customsFrom i cols) = customNames cols := by
  induction cols generalizing i with
  | nil => rfl
  | cons c cs ih =>
    rw [customNames_cons]
    cases c <;> simp [customsFrom, Col.customName, keys, Option.toList, ← ih (i + 1)]

theorem lookup_fieldsFrom (k : Str) (P : Col → Bool) (hP : ∀ c, c.fieldName = some k ↔ P c = true)
    (cols : List Col) (i : Nat) : lookup k (fieldsFrom i cols) = (cols.findIdx? P).map (· + i) := by
  fun_induction fieldsFrom i cols with
  | case1 => rfl
  | case2 i c cs ih =>
    rw [List.findIdx?_cons]
    by_cases hc : P c = true
    · simp [(hP c).mpr hc, hc, lookup]
    -- an index found in the tail is shifted by one here and by `i` outside: by `i + 1`, as `ih` has it
    · cases hfn : c.fieldName with
      | none => simp [hc, ih, Function.comp_def, Nat.add_assoc, Nat.add_comm 1]
      | some n =>
        have : n ≠ k := fun h => hc ((hP c).mp (h ▸ hfn))
        simp [hc, lookup, this, ih, Function.comp_def, Nat.add_assoc, Nat.add_comm 1]

theorem lookup_fieldsFrom_zero {k : Str} {P : Col → Bool} (hP : ∀ c, c.fieldName = some k ↔ P c = true) (cols : List Col) :
    lookup k (fieldsFrom 0 cols) = cols.findIdx? P := by simpa using lookup_fieldsFrom k P hP cols 0

theorem isDate_iff (c : Col) : c.fieldName = some sDate ↔ c.isDate = true := by
  cases c <;> simp [Col.fieldName, Col.isDate] <;> decide
theorem isAmount_iff (c : Col) : c.fieldName = some sAmount ↔ c.isAmount = true := by
  cases c <;> simp [Col.fieldName, Col.isAmount] <;> decide
theorem isDescription_iff (c : Col) : c.fieldName = some sDescription ↔ c.isDescription = true := by
  cases c <;> simp [Col.fieldName, Col.isDescription] <;> decide
theorem isLocation_iff (c : Col) : c.fieldName = some sLocation ↔ c.isLocation = true := by
  cases c <;> simp [Col.fieldName, Col.isLocation] <;> decide

theorem fieldName_some {c : Col} {k : Str} (h : c.fieldName = some k) :
    (k = sDate ∧ c.isDate = true) ∨ (k = sDescription ∧ c.isDescription = true) ∨
    (k = sAmount ∧ c.isAmount = true) ∨ (k = sLocation ∧ c.isLocation = true) := by
  cases c <;> simp [Col.fieldName] at h <;> simp [← h, Col.isDate, Col.isDescription, Col.isAmount, Col.isLocation]

/-- A component `π` of the state that only the columns of one reserved field `k` touch is, after the loop, what the one column
of that field (if any) made of it: `fieldNames` without repetition has at most one such column. -/
theorem accum_proj {α : Type} (π : St → α) (G : Option Col → α → α) (k : Str) (P : Col → Bool)
    (hP : ∀ c, c.fieldName = some k ↔ P c = true) (hG : ∀ x, G none x = x)
    (hπ : ∀ idx st c, π (upd idx st c) = if P c = true then G (some c) (π st) else π st)
    (cols : List Col) (idx : Nat) (st : St) (hnd : (fieldNames cols).Nodup) :
      π (accum idx st cols) = G (cols.find? P) (π st) := by
  fun_induction accum idx st cols with
  | case1 => exact (hG _).symm
  | case2 idx st c cs ih =>
    rw [ih (List.nodup_append.mp (fieldNames_cons c cs ▸ hnd)).2.1, hπ, List.find?_cons]
    by_cases hc : P c = true
    · have hno : cs.find? P = none := by
        rw [List.find?_eq_none]
        intro x hx hxP
        rw [fieldNames_cons, (hP c).mpr hc] at hnd
        exact (List.nodup_append.mp hnd).2.2 k (by simp [Option.toList]) k
          (List.mem_filterMap.mpr ⟨x, hx, (hP x).mpr hxP⟩) rfl
      rw [hno, hG, hc, if_pos rfl]
    · rw [if_neg hc, Bool.not_eq_true _ |>.mp hc]

theorem accum_dateFormat {cols : List Col} {idx : Nat} {st : St} (hnd : (fieldNames cols).Nodup) :
    (accum idx st cols).dateFormat =
      (match cols.find? Col.isDate with | some (.date (some f)) => f | _ => st.dateFormat) :=
  accum_proj St.dateFormat (fun o x => match o with | some (.date (some f)) => f | _ => x) sDate Col.isDate isDate_iff
    (fun _ => rfl) (fun idx st c => by cases c with | date f => cases f <;> rfl | _ => rfl) cols idx st hnd

theorem accum_sign {cols : List Col} {idx : Nat} {st : St} (hnd : (fieldNames cols).Nodup) :
    (accum idx st cols).negate = (st.negate || signModeOf cols == .negate) ∧
    (accum idx st cols).abs = (st.abs || signModeOf cols == .abs) :=
  ⟨accum_proj St.negate (fun o x => x || (match o with | some (.amount s) => s | _ => .asIs) == .negate) sAmount Col.isAmount
      isAmount_iff Bool.or_false (fun idx st c => by cases c <;> rfl) cols idx st hnd,
    accum_proj St.abs (fun o x => x || (match o with | some (.amount s) => s | _ => .asIs) == .abs) sAmount Col.isAmount
      isAmount_iff Bool.or_false (fun idx st c => by cases c <;> rfl) cols idx st hnd⟩

theorem finish_spec {e : Ext} {cols : List Col} {tmpl : Option Str} (hwf : WellFormed e cols tmpl) :
    Impl.finish e (accum 0 St.init cols) tmpl = .ok (specOf cols tmpl) := by
  obtain ⟨hnd, _, _, hdate, hamt, hdesc, hrefs⟩ := hwf
  have hce : (customsFrom 0 cols).isEmpty = (customNames cols).isEmpty := by rw [← keys_customsFrom cols 0]; simp [keys]
  obtain ⟨d, hd⟩ := Option.isSome_iff_exists.mp (List.findIdx?_isSome ▸ hdate)
  obtain ⟨a, ha⟩ := Option.isSome_iff_exists.mp (List.findIdx?_isSome ▸ hamt)
  -- the regenerated table spelt out: when tally requires another field, this `rfl` fails and `WellFormed` has to ask for its column
  have hreq : FmtTables.REQUIRED = [sAmount, sDate] := rfl
  have hdf : (accum 0 St.init cols).dateFormat = dateFmtOf cols := by rw [accum_dateFormat hnd]; rfl
  unfold Impl.finish
  -- the state after the loop, component by component, as the arrangement gives it
  simp only [hdf, accum_dicts, accum_sign hnd]
  -- a reserved field is looked up at the first column that carries it; the two required ones are there (`hd`, `ha`)
  simp only [St.init, List.nil_append, Bool.false_or, fun k => contains_keys k (fieldsFrom 0 cols), hreq, List.any_cons,
    List.any_nil, hce, lookup_fieldsFrom_zero isDate_iff, lookup_fieldsFrom_zero isAmount_iff,
    lookup_fieldsFrom_zero isDescription_iff, lookup_fieldsFrom_zero isLocation_iff, List.findIdx?_isSome, hd, ha]
  cases hD : cols.any Col.isDescription with
  | true =>
    -- a description column: a well-formed template refers to nothing, captures become extra fields
    have hr0 : refsOf e tmpl = [] := List.eq_nil_iff_forall_not_mem.mpr fun r hr => by simpa [hD] using (hrefs r hr).1
    have hr1 : (if Impl.tmplAbsent tmpl = true then [] else templateRefs e (tmpl.getD [])) = [] := hr0
    cases hE : (customNames cols).isEmpty <;>
      simp [hr1, specOf, hD, hd, ha, hce, hE]
  | false =>
    -- none: there are captures and a template (`hdesc`), and what the template refers to is captured (`hrefs`)
    rw [hD] at hdesc
    have hdesc' := hdesc.resolve_left (by simp)
    have hE : (customNames cols).isEmpty = false := by simpa using hdesc'.1
    have hfind : List.find? (fun r => !decide (r ∈ keys (customsFrom 0 cols))) (templateRefs e (tmpl.getD [])) = none := by
      apply List.find?_eq_none.mpr
      intro r hr
      have hmem : r ∈ refsOf e tmpl := by simp [refsOf, hdesc'.2, hr]
      have hcap := (hrefs r hmem).2
      rw [keys_customsFrom]; simp [hcap]
    simp [hE, hdesc'.2, hfind, specOf, hD, hd, ha, hce]

/-- the lower-cased name the parser reads in one comma-separated piece, if the piece matches the token regex -/
def tokName (e : Ext) (part : Str) : Option Str :=
  (matchTok e (strip e part)).map (fun t => e.lower t.name)

theorem tokName_of_matchTok {e : Ext} {p : Str} {t : RawTok} (h : matchTok e (strip e p) = some t) :
    tokName e p = some (e.lower t.name) := by
  rw [tokName, h]; rfl

/-- piece `i` of `parts` exists and reads the name `k` -/
def NamedAt (e : Ext) (parts : List Str) (i : Nat) (k : Str) : Prop :=
  ∃ p, parts[i]? = some p ∧ tokName e p = some k

theorem NamedAt.mem {e : Ext} {parts : List Str} {i : Nat} {k : Str} (h : NamedAt e parts i k) :
    ∃ p ∈ parts, tokName e p = some k := by
  obtain ⟨p, hp, hk⟩ := h
  exact ⟨p, List.mem_of_getElem? hp, hk⟩

theorem NamedAt.unique {e : Ext} {parts : List Str} {i : Nat} {k n : Str} (hk : NamedAt e parts i k)
    (hn : NamedAt e parts i n) : k = n := by
  obtain ⟨p, hp, hpk⟩ := hk
  obtain ⟨q, hq, hqn⟩ := hn
  rw [hp] at hq; cases hq
  rw [hpk] at hqn; exact Option.some.inj hqn

theorem namedAt_of_mem {e : Ext} {parts : List Str} {p k : Str} (hp : p ∈ parts) (hk : tokName e p = some k) :
    ∃ i, NamedAt e parts i k := by
  obtain ⟨i, hi⟩ := List.getElem?_of_mem hp
  exact ⟨i, p, hi, hk⟩

theorem step_ok {e : Ext} {idx : Nat} {st st' : St} {t : RawTok} (h : Impl.step e idx st t = .ok st') :
    (isSkipName (e.lower t.name) ∧ st' = st) ∨
    (¬ isSkipName (e.lower t.name) ∧ e.lower t.name ∈ FmtTables.RESERVED_NAMES ∧ e.lower t.name ∉ keys st.fields ∧
      st' = enter (e.lower t.name) idx t st) ∨
    (e.lower t.name ∉ FmtTables.RESERVED_NAMES ∧ e.lower t.name ∉ keys st.customs ∧
      st' = { st with customs := st.customs ++ [(e.lower t.name, idx)] }) := by
  rw [step_eq] at h
  by_cases hs : isSkipName (e.lower t.name)
  · rw [if_pos hs] at h; exact Or.inl ⟨hs, (Except.ok.inj h).symm⟩
  · rw [if_neg hs] at h
    by_cases hr : e.lower t.name ∈ FmtTables.RESERVED_NAMES
    · rw [if_pos hr] at h
      by_cases hk : e.lower t.name ∈ keys st.fields
      · rw [if_pos hk] at h; cases h
      · rw [if_neg hk] at h; exact Or.inr (Or.inl ⟨hs, hr, hk, (Except.ok.inj h).symm⟩)
    · rw [if_neg hr] at h
      by_cases hk : e.lower t.name ∈ keys st.customs
      · rw [if_pos hk] at h; cases h
      · rw [if_neg hk] at h; exact Or.inr (Or.inr ⟨hr, hk, (Except.ok.inj h).symm⟩)

theorem loop_ok_cons {e : Ext} {idx : Nat} {st st' : St} {p : Str} {R : List Str}
    (h : Impl.loop e idx st (p :: R) = .ok st') :
    ∃ t st1, matchTok e (strip e p) = some t ∧ Impl.step e idx st t = .ok st1 ∧
      Impl.loop e (idx + 1) st1 R = .ok st' := by
  unfold Impl.loop at h
  split at h
  · cases h
  · rename_i t hm
    split at h
    · cases h
    · rename_i st1 hs; exact ⟨t, st1, hm, hs, h⟩

theorem loop_ok_append {e : Ext} (A : List Str) {idx : Nat} {st st' : St} {R : List Str}
    (h : Impl.loop e idx st (A ++ R) = .ok st') :
    ∃ st1, Impl.loop e idx st A = .ok st1 ∧ Impl.loop e (idx + A.length) st1 R = .ok st' := by
  induction A generalizing idx st with
  | nil => exact ⟨st, rfl, by simpa using h⟩
  | cons a A ih =>
    obtain ⟨t, st1, hm, hs, hl⟩ := loop_ok_cons (by simpa using h)
    obtain ⟨st2, h1, h2⟩ := ih hl
    refine ⟨st2, by simpa only [Impl.loop, hm, hs] using h1, ?_⟩
    rw [List.length_cons, ← Nat.add_assoc, Nat.add_right_comm]; exact h2

/-- the entries the loop makes for the pieces `parts`, numbered from `idx`: `(name, index)` for each piece whose name is
not `_` / `*` -/
def entries (e : Ext) (idx : Nat) (parts : List Str) : List (Str × Nat) :=
  (parts.zipIdx idx).filterMap fun (p, i) => (tokName e p).bind fun n => if isSkipName n then none else some (n, i)

theorem loop_ok_entries {e : Ext} (parts : List Str) {idx : Nat} {st st' : St} (h : Impl.loop e idx st parts = .ok st') :
    st'.fields = st.fields ++ (entries e idx parts).filter (fun kv => FmtTables.RESERVED_NAMES.contains kv.1) ∧
    st'.customs = st.customs ++ (entries e idx parts).filter (fun kv => !FmtTables.RESERVED_NAMES.contains kv.1) := by
  induction parts generalizing idx st with
  | nil => cases h; simp [entries]
  | cons p R ih =>
    obtain ⟨t, st1, hm, hs, hl⟩ := loop_ok_cons h
    have hn := tokName_of_matchTok hm
    obtain ⟨h1, h2⟩ := ih hl
    simp only [entries, List.zipIdx_cons, List.filterMap_cons, hn, Option.bind_some] at h1 h2 ⊢
    rw [h1, h2]
    rcases step_ok hs with ⟨hsk, rfl⟩ | ⟨hsk, hr, _, rfl⟩ | ⟨hr, _, rfl⟩      -- `_`/`*`, a reserved word, a capture
    · simp [hsk]
    · simp [hsk, hr, enter]
    · have hsk : ¬ isSkipName (e.lower t.name) := fun h => hr (skip_reserved h)
      simp [hsk, hr]

theorem mem_entries {e : Ext} {k : Str} {v : Nat} {parts : List Str} :
    (k, v) ∈ entries e 0 parts ↔ ¬ isSkipName k ∧ NamedAt e parts v k := by
  simp only [entries, List.mem_filterMap, List.mem_zipIdx_iff_getElem?, Prod.exists, NamedAt, Option.bind_eq_some_iff]
  constructor
  · rintro ⟨p, i, hp, n, hn, h⟩
    split at h
    · cases h
    · cases h; exact ⟨‹_›, p, hp, hn⟩
  · rintro ⟨hs, p, hp, hn⟩
    exact ⟨p, v, hp, k, hn, if_neg hs⟩

theorem loop_ok_mem {e : Ext} {parts : List Str} {st : St} (h : Impl.loop e 0 St.init parts = .ok st) (k : Str) (v : Nat) :
    ((k, v) ∈ st.fields ↔ k ∈ FmtTables.RESERVED_NAMES ∧ ¬ isSkipName k ∧ NamedAt e parts v k) ∧
    ((k, v) ∈ st.customs ↔ k ∉ FmtTables.RESERVED_NAMES ∧ NamedAt e parts v k) := by
  obtain ⟨h1, h2⟩ := loop_ok_entries parts h
  rw [h1, h2]
  simp only [St.init, List.nil_append, List.mem_filter, mem_entries, List.contains_eq_mem, decide_eq_true_eq,
    Bool.not_eq_true', decide_eq_false_iff_not]
  exact ⟨⟨fun ⟨⟨a, b⟩, c⟩ => ⟨c, a, b⟩, fun ⟨c, a, b⟩ => ⟨⟨a, b⟩, c⟩⟩,
    ⟨fun ⟨⟨_, b⟩, c⟩ => ⟨c, b⟩, fun ⟨c, b⟩ => ⟨⟨fun hs => c (skip_reserved hs), b⟩, c⟩⟩⟩

theorem loop_ok_description {e : Ext} {parts : List Str} {st : St} (h : Impl.loop e 0 St.init parts = .ok st) :
    sDescription ∈ keys st.fields ↔ ∃ p ∈ parts, tokName e p = some sDescription := by
  simp only [mem_keys, loop_ok_mem h]
  exact ⟨fun ⟨_, _, _, c⟩ => c.mem, fun ⟨p, hp, hk⟩ => (namedAt_of_mem hp hk).imp fun _ c => ⟨by decide, by decide, c⟩⟩

theorem loop_ok_lookup {e : Ext} {parts : List Str} {st : St} (h : Impl.loop e 0 St.init parts = .ok st) {k : Str} {v : Nat}
    (hkv : lookup k st.fields = some v) : NamedAt e parts v k :=
  ((loop_ok_mem h k v).1.mp (lookup_mem hkv)).2.2

theorem loop_duplicate {e : Ext} (A B C : List Str) (p q : Str) (n : Str) {st' : St}
    (hp : tokName e p = some n) (hq : tokName e q = some n)
    (h : Impl.loop e 0 St.init (A ++ p :: (B ++ q :: C)) = .ok st') : isSkipName n := by
  -- when `q` is reached, `p` has been entered under the same name
  rw [show A ++ p :: (B ++ q :: C) = (A ++ p :: B) ++ q :: C by simp] at h
  obtain ⟨st1, h1, h2⟩ := loop_ok_append _ h
  obtain ⟨tq, _, hmq, hsq, _⟩ := loop_ok_cons h2
  obtain rfl : e.lower tq.name = n := Option.some.inj ((tokName_of_matchTok hmq).symm.trans hq)
  have hna : NamedAt e (A ++ p :: B) A.length (e.lower tq.name) := ⟨p, by simp, hp⟩
  have hmem := loop_ok_mem h1 (e.lower tq.name) A.length
  rcases step_ok hsq with ⟨hsk, _⟩ | ⟨hns, hr, hnot, _⟩ | ⟨hr, hnot, _⟩         -- `_`/`*`, a reserved word, a capture
  · exact hsk
  · exact absurd (mem_keys.mpr ⟨_, hmem.1.mpr ⟨hr, hns, hna⟩⟩) hnot
  · exact absurd (mem_keys.mpr ⟨_, hmem.2.mpr ⟨hr, hna⟩⟩) hnot

theorem loop_dateFormat {e : Ext} {parts : List Str} {idx : Nat} {st st' : St} (h : Impl.loop e idx st parts = .ok st') :
    st'.dateFormat = st.dateFormat ∨ ∃ p ∈ parts, ∃ t, matchTok e (strip e p) = some t ∧ t.spec = some st'.dateFormat := by
  induction parts generalizing idx st with
  | nil => cases h; exact Or.inl rfl
  | cons p R ih =>
    obtain ⟨t, st1, hm, hs, hl⟩ := loop_ok_cons h
    have hstep : st1.dateFormat = st.dateFormat ∨ t.spec = some st1.dateFormat := by
      rcases step_ok hs with ⟨_, rfl⟩ | ⟨_, _, _, rfl⟩ | ⟨_, _, rfl⟩       -- `_`/`*`, a reserved word, a capture
      · exact Or.inl rfl
      · unfold enter
        by_cases hd : e.lower t.name = sDate
        · cases hsp : t.spec with
          | none => simp [hd]
          | some f => by_cases hf : f = [] <;> simp [hd, hf]
        · simp [hd]
      · exact Or.inl rfl
    rcases ih hl with h1 | ⟨q, hq, hqt⟩
    · rcases hstep with h2 | h2
      · exact Or.inl (h1.trans h2)
      · exact Or.inr ⟨p, List.mem_cons_self, t, hm, h1 ▸ h2⟩
    · exact Or.inr ⟨q, List.mem_cons_of_mem _ hq, hqt⟩

theorem finish_ok {e : Ext} {st : St} {tmpl : Option Str} {spec : FormatSpec}
    (h : Impl.finish e st tmpl = .ok spec) :
    (sDescription ∈ keys st.fields ∨ (st.customs ≠ [] ∧ Impl.tmplAbsent tmpl = false)) ∧
    (∀ r ∈ refsOf e tmpl, r ∈ keys st.customs ∧ sDescription ∉ keys st.fields) ∧
    ∃ d a, lookup sDate st.fields = some d ∧ lookup sAmount st.fields = some a ∧
      spec = { dateColumn := d, dateFormat := st.dateFormat, amountColumn := a,
               descriptionColumn := lookup sDescription st.fields,
               customCaptures := if sDescription ∈ keys st.fields ∨ st.customs = [] then none else some st.customs,
               descriptionTemplate := tmpl,
               extraFields := if sDescription ∈ keys st.fields ∧ st.customs ≠ [] then some st.customs else none,
               locationColumn := lookup sLocation st.fields, negateAmount := st.negate, absAmount := st.abs } := by
  revert h
  fun_cases Impl.finish e st tmpl with
  | case1 | case2 | case3 | case4 | case6 => nofun  -- the five raise sites
  -- the branch that returns: `h1`, `h2`, `h3` are its failed guards, `hd` and `ha` the two lookups
  | case5 _ _ _ customs _ h1 h2 _ h3 _ _ _ ha hd =>
    intro h; cases h
    have hrefs : ∀ r ∈ refsOf e tmpl, r ∈ keys customs := fun r hr => by
      simpa using List.find?_eq_none.mp h3 r hr
    by_cases hD : sDescription ∈ keys st.fields <;> by_cases hC : st.customs = [] <;>
      simp +zetaDelta [hD, hC, hd, ha] at h1 h2 hrefs ⊢
    -- a description field, without and with captures: the template was checked against the empty dictionary
    · exact fun r hr => absurd (hrefs r hr) (by simp [keys])
    · exact fun r hr => absurd (hrefs r hr) (by simp [keys])
    -- captures only (with neither, `h1` has failed): `h2` says that the template is there
    · exact ⟨h2, hrefs⟩

theorem parseFormat_ok {e : Ext} {s : Str} {tmpl : Option Str} {spec : FormatSpec}
    (h : Impl.parseFormat e s tmpl = .ok spec) :
    ∃ st, Impl.loop e 0 St.init (splitComma s) = .ok st ∧ Impl.finish e st tmpl = .ok spec := by
  revert h
  fun_cases Impl.parseFormat e s tmpl <;> intro h
  · cases h
  · exact ⟨_, ‹_›, h⟩

/-- what every accepted format string has; each field is one way of being rejected, read backwards -/
structure Accepted (e : Ext) (s : Str) (tmpl : Option Str) : Prop where
  tokens : ∀ p ∈ splitComma s, tokName e p ≠ none
  noDuplicate : ∀ A B C p q n, splitComma s = A ++ p :: (B ++ q :: C) → tokName e p = some n → tokName e q = some n →
    isSkipName n
  date : ∃ p ∈ splitComma s, tokName e p = some sDate
  amount : ∃ p ∈ splitComma s, tokName e p = some sAmount
  descriptionOrTemplate : (∃ p ∈ splitComma s, tokName e p = some sDescription) ∨ Impl.tmplAbsent tmpl = false
  refs : ∀ r ∈ refsOf e tmpl,
    (∃ p ∈ splitComma s, tokName e p = some r) ∧ ∀ p ∈ splitComma s, tokName e p ≠ some sDescription

theorem parseFormat_accepted {e : Ext} {s : Str} {tmpl : Option Str} {spec : FormatSpec}
    (h : Impl.parseFormat e s tmpl = .ok spec) : Accepted e s tmpl := by
  obtain ⟨st, hl, hf⟩ := parseFormat_ok h
  obtain ⟨hmode, hrefs, d, a, hd, ha, _⟩ := finish_ok hf
  have hD := loop_ok_description hl
  constructor
  case tokens =>
    intro p hp hbad
    obtain ⟨A, R, hsplit⟩ := List.append_of_mem hp
    rw [hsplit] at hl
    obtain ⟨st1, _, h1⟩ := loop_ok_append A hl
    obtain ⟨t, _, hm, _, _⟩ := loop_ok_cons h1
    cases (tokName_of_matchTok hm).symm.trans hbad
  case noDuplicate => exact fun A B C p q n hs hp hq => loop_duplicate A B C p q n hp hq (hs ▸ hl)
  case date => exact (loop_ok_lookup hl hd).mem
  case amount => exact (loop_ok_lookup hl ha).mem
  case descriptionOrTemplate => exact hmode.imp hD.mp fun h => h.2
  case refs =>
    intro r hr
    obtain ⟨hrc, hnd⟩ := hrefs r hr
    obtain ⟨v, hv⟩ := mem_keys.mp hrc
    exact ⟨((loop_ok_mem hl _ _).2.mp hv).2.mem, fun p hp hn => hnd (hD.mpr ⟨p, hp, hn⟩)⟩

end TallyVerif.Fmt
