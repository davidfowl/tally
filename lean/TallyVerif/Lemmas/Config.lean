import TallyVerif.Model.Config
import TallyVerif.Lemmas.MapM
import TallyVerif.Lemmas.Lists
/-! Lemmas under Props/C11 about `Model/Config`, in the order of that file: dicts, `resolveSource`, the blocks of `load_config`,
`resolveConfig`, the plan of `cmd_run`.  `resolveSource` and `resolveConfig` read a mapping through `get` only, so that mappings
agreeing on the keys read — or on their defaults — resolve alike; every list traversal is a `List.mapM` in `Except` (the `_eq_mapM`
lemmas; Lemmas/MapM says how those split); the `merchants_file` and `views_file` blocks are one case distinction on `pathSetting` of
their key. -/

namespace TallyVerif.Config
open TallyVerif.Gen

theorem get_cons (k k' : Str) (v : Y) (d : Dict) : get k' ((k, v) :: d) = if k = k' then some v else get k' d := rfl

theorem has_cons (k k' : Str) (v : Y) (d : Dict) : has k' ((k, v) :: d) = if k = k' then true else has k' d := by
  unfold has; rw [get_cons]; split <;> simp

theorem get_erase (k k' : Str) (d : Dict) : get k' (erase k d) = if k' = k then none else get k' d := by
  induction d with
  | nil => simp [erase, get]
  | cons p r ih =>
    unfold erase at ih ⊢
    by_cases h : p.1 = k
    · rw [List.filter_cons_of_neg (by simp [h]), ih, get]
      by_cases h2 : k' = k
      · rw [if_pos h2, if_pos h2]
      · rw [if_neg h2, if_neg h2, if_neg (fun e => h2 (e.symm.trans h))]
    · rw [List.filter_cons_of_pos (by simpa using h), get, get, ih]
      by_cases h2 : p.1 = k'
      · rw [if_pos h2, if_pos h2, if_neg (fun e => h (h2 ▸ e))]
      · rw [if_neg h2, if_neg h2]

theorem get_erase_self (k : Str) (d : Dict) : get k (erase k d) = none := by rw [get_erase, if_pos rfl]

theorem get_insert (k k' : Str) (v : Y) (d : Dict) : get k' (insert k v d) = if k' = k then some v else get k' d := by
  unfold insert
  rw [get_cons, get_erase]
  by_cases h : k' = k
  · rw [if_pos h.symm, if_pos h]
  · rw [if_neg (fun e => h e.symm), if_neg h, if_neg h]

theorem has_erase (k k' : Str) (d : Dict) : has k' (erase k d) = if k' = k then false else has k' d := by
  unfold has; rw [get_erase]; split <;> simp

theorem has_insert (k k' : Str) (v : Y) (d : Dict) : has k' (insert k v d) = if k' = k then true else has k' d := by
  unfold has; rw [get_insert]; split <;> simp

theorem get_erase_insert {k k' : Str} (v : Y) (d : Dict) (h : k' ≠ k) : get k' (erase k d) = get k' (insert k v d) := by
  rw [get_erase, get_insert, if_neg h, if_neg h]

/-- every key `resolveSource` looks up in the source dict -/
def readKeys : List Str :=
  ConfigTables.REMOVED_SOURCE_KEYS ++ [kFormat, kType, kColumns, kDelimiter, kHasHeader, kNegateAmount, kName, kFile, kSupplemental,
    kDecimalSeparator]

/-- the keys whose value is used as it is, absent or present -/
def strictKeys : List Str := ConfigTables.REMOVED_SOURCE_KEYS ++ [kFormat, kType, kColumns, kName, kFile]

/-- the keys whose absence stands for a fixed value, with that value -/
def sourceDefaults : List (Str × Y) :=
  [(kDelimiter, .null), (kHasHeader, .bool true), (kSupplemental, .bool false), (kDecimalSeparator, .str ['.'])]

/-- what the source's own format string says about the sign (`{-amount}`); `none`: there is no `format:` or it is rejected -/
def formatFlag (e : Fmt.Ext) (d : Dict) : Option Bool :=
  match get kFormat d with
  | some fmt => (parseFormatY e fmt (templateOf d)).toOption.map (·.negateAmount)
  | none => none

theorem find?_has_congr (ks : List Str) {d d' : Dict} (h : ∀ k ∈ ks, get k d = get k d') :
    ks.find? (fun k => has k d) = ks.find? (fun k => has k d') :=
  List.find?_congr_mem fun k hk => by rw [has, has, h k hk]

/-- `resolveSource` reads the dict through `get` only: the keys of `sourceDefaults` through `getD` with their default, and
`negate_amount` through `getD` with the flag of the format, once the format is accepted -/
theorem resolveSource_congr_defaults (e : Fmt.Ext) {d d' : Dict} (h : ∀ k ∈ strictKeys, get k d = get k d')
    (hd : ∀ p ∈ sourceDefaults, (get p.1 d).getD p.2 = (get p.1 d').getD p.2)
    (hn : ∀ b, formatFlag e d = some b → (get kNegateAmount d).getD (.bool b) = (get kNegateAmount d').getD (.bool b)) :
    resolveSource e (.map d) = resolveSource e (.map d') := by
  have hr := find?_has_congr ConfigTables.REMOVED_SOURCE_KEYS fun k hk => h k (List.mem_append_left _ hk)
  have hfmt := h kFormat (by decide)
  have ht : templateOf d = templateOf d' := by unfold templateOf; rw [h kColumns (by decide)]
  have d1 := hd (kDelimiter, .null) (by decide)
  have d2 := hd (kHasHeader, .bool true) (by decide)
  have d3 := hd (kSupplemental, .bool false) (by decide)
  have d4 := hd (kDecimalSeparator, .str ['.']) (by decide)
  simp only [formatFlag, ht, hfmt] at hn
  simp only [resolveSource, resolveGeneric, mkSource, ht, hr, ConfigTables.SPEC_HAS_HEADER_DEFAULT, ConfigTables.DECIMAL_DEFAULT,
    hfmt, h kType (by decide), h kName (by decide), h kFile (by decide), d1, d2, d3, d4]
  split  -- a removed key is there, or none is
  · rfl
  · cases hf : get kFormat d' with
    | none => rfl
    | some fmt =>
      simp only [hf] at hn ⊢
      cases hp : parseFormatY e fmt (templateOf d') with
      | error err => rfl
      | ok spec => simp only [Except.map, hn spec.negateAmount (by rw [hp]; rfl)]

theorem resolveSource_congr (e : Fmt.Ext) {d d' : Dict} (h : ∀ k ∈ readKeys, get k d = get k d') :
    resolveSource e (.map d) = resolveSource e (.map d') :=
  resolveSource_congr_defaults e (fun k hk => h k (by revert k; decide)) (fun p hp => by rw [h p.1 (by revert p; decide)])
    (fun _ _ => by rw [h kNegateAmount (by decide)])

/-- a key the code does not read can be added, changed or removed freely -/
theorem resolveSource_unread (e : Fmt.Ext) (d : Dict) (k : Str) (v : Y) (hk : k ∉ readKeys) :
    resolveSource e (.map (insert k v d)) = resolveSource e (.map (erase k d)) :=
  resolveSource_congr e fun k' hk' => (get_erase_insert v d fun e : k' = k => hk (e ▸ hk')).symm

theorem resolveSource_default (e : Fmt.Ext) (d : Dict) (p : Str × Y) (hp : p ∈ sourceDefaults) :
    resolveSource e (.map (erase p.1 d)) = resolveSource e (.map (insert p.1 p.2 d)) := by
  have hne : ∀ k ∈ kNegateAmount :: strictKeys, k ≠ p.1 := by revert p; decide
  refine resolveSource_congr_defaults e (fun k hk => get_erase_insert _ _ (hne k (List.mem_cons_of_mem _ hk))) (fun q hq => ?_)
    (fun b _ => by rw [get_erase_insert _ _ (hne _ (List.mem_cons_self ..))])
  by_cases hqp : q.1 = p.1
  · have : q = p := by revert p q; decide
    rw [this, get_erase_self, get_insert, if_pos rfl]; rfl
  · rw [get_erase_insert _ _ hqp]

theorem resolveSource_negate (e : Fmt.Ext) (d : Dict) (v : Y) (h : ∀ b, formatFlag e d = some b → v = .bool b) :
    resolveSource e (.map (erase kNegateAmount d)) = resolveSource e (.map (insert kNegateAmount v d)) := by
  have hne : ∀ k ∈ strictKeys ++ sourceDefaults.map (·.1), k ≠ kNegateAmount := by decide
  refine resolveSource_congr_defaults e (fun k hk => get_erase_insert _ _ (hne k (List.mem_append_left _ hk)))
    (fun q hq => by rw [get_erase_insert _ _ (hne _ (List.mem_append_right _ (List.mem_map_of_mem hq)))]) (fun b hb => ?_)
  have hflag : formatFlag e (erase kNegateAmount d) = formatFlag e d := by
    simp only [formatFlag, templateOf, get_erase]
    rfl
  rw [hflag] at hb
  rw [get_erase_self, get_insert, if_pos rfl, h b hb]; rfl

theorem resolveAll_eq_mapM (e : Fmt.Ext) (xs : List Y) : resolveAll e xs = xs.mapM (resolveSource e) := by
  induction xs with
  | nil => rfl
  | cons x xs ih =>
    rw [resolveAll, List.mapM_except_cons, ih]
    cases resolveSource e x with
    | error err => rfl
    | ok s => cases xs.mapM (resolveSource e) <;> rfl

theorem resolveSources_list (e : Fmt.Ext) (xs : List Y) : resolveSources e (some (.list xs)) = xs.mapM (resolveSource e) := by
  rw [← resolveAll_eq_mapM]
  cases xs <;> rfl

/-- how `load_config` reads `merchants_file` / `views_file` (`if v: … os.path.join(…, v) …`): absent or falsy, a non-empty
string, or a truthy value `os.path.join` rejects -/
inductive PathSetting | unset | path (s : Str) | notStr

def pathSetting (o : Option Y) : PathSetting :=
  if (o.getD .null).truthy then (match o.getD .null with | .str s => .path s | _ => .notStr) else .unset

theorem ite_match_pathSetting {α : Type} (o : Option Y) (u : α) (p : Str → α) (b : α) :
    (if (o.getD .null).truthy then (match o.getD .null with | .str s => p s | _ => b) else u) =
      match pathSetting o with | .unset => u | .path s => p s | .notStr => b := by
  unfold pathSetting
  generalize o.getD .null = v
  cases v.truthy with
  | true => cases v <;> rfl
  | false => rfl

theorem pathSetting_eq_path {o : Option Y} {s : Str} : pathSetting o = .path s ↔ o = some (.str s) ∧ s ≠ [] := by
  rcases o with _ | v
  · simp [pathSetting, Y.truthy]
  · cases v with
    | str t =>
      cases t with
      | nil => simp [pathSetting, Y.truthy]
      | cons a r => simp only [pathSetting, Option.getD_some]; exact ⟨fun h => by cases h; simp, fun h => by cases h.1; rfl⟩
    | _ => simp only [pathSetting, Option.getD_some]; split <;> simp

theorem pathSetting_eq_unset {o : Option Y} : pathSetting o = .unset ↔ (o.getD .null).truthy = false := by
  unfold pathSetting
  split
  next h => split <;> simp [h]
  next h => simpa using h

theorem resolveRulesFile_eq (env : Env) (c : Dict) :
    resolveRulesFile env c = match pathSetting (get kMerchantsFile c) with
      | .unset => if env.pathExists (pjoin2 env.cfgDir ConfigTables.LEGACY_CSV_NAME)
          then .ok (.csv (pjoin2 env.cfgDir ConfigTables.LEGACY_CSV_NAME), []) else .ok (.none, [])
      | .path s => if env.pathExists (pjoin2 (dirname env.cfgDir) s)
          then .ok (.new (pjoin2 (dirname env.cfgDir) s), []) else .ok (.none, [.merchantsNotFound])
      | .notStr => .error (.pathNotStr kMerchantsFile) :=
  ite_match_pathSetting ..

theorem resolveViewsFile_eq (env : Env) (c : Dict) :
    resolveViewsFile env c = match pathSetting (get kViewsFile c) with
      | .unset => .ok (none, [])
      | .path s => if env.pathExists (pjoin2 (dirname env.cfgDir) s) then
          (match env.viewsLoad (pjoin2 (dirname env.cfgDir) s) with
           | .loaded => .ok (some (pjoin2 (dirname env.cfgDir) s), [])
           | .parseError => .ok (none, [.viewsError])
           | .raises cls => .error (.viewsRaises cls))
        else .ok (none, [.viewsNotFound])
      | .notStr => .error (.pathNotStr kViewsFile) :=
  ite_match_pathSetting ..

theorem resolveRulesFile_warnings {env : Env} {c : Dict} {rf : RulesFile} {wr : List Warning}
    (h : resolveRulesFile env c = .ok (rf, wr)) : wr = [] ∨ wr = [.merchantsNotFound] := by
  revert h
  -- every branch of the block ends in a list of warnings that is written out
  fun_cases resolveRulesFile env c <;> intro h <;> cases h <;> simp

theorem resolveViewsFile_warnings {env : Env} {c : Dict} {vf : Option Str} {wv : List Warning}
    (h : resolveViewsFile env c = .ok (vf, wv)) : wv = [] ∨ wv = [.viewsError] ∨ wv = [.viewsNotFound] := by
  revert h
  fun_cases resolveViewsFile env c <;> intro h <;> cases h <;> simp

theorem invalidRuleMode_not_mem_parserWarnings (ss : List SourceCfg) : Warning.invalidRuleMode ∉ parserWarnings ss := by
  intro h
  simp only [parserWarnings, List.mem_filterMap] at h
  obtain ⟨s, _, hs⟩ := h
  split at hs <;> cases hs

theorem invalidRuleMode_not_mem_removedWarnings (c : Dict) : Warning.invalidRuleMode ∉ removedWarnings c := by
  unfold removedWarnings
  split <;> simp

theorem resolveRulesFile_congr (env : Env) {c c' : Dict} (h : get kMerchantsFile c = get kMerchantsFile c') :
    resolveRulesFile env c = resolveRulesFile env c' := by
  unfold resolveRulesFile; rw [h]

theorem resolveViewsFile_congr (env : Env) {c c' : Dict} (h : get kViewsFile c = get kViewsFile c') :
    resolveViewsFile env c = resolveViewsFile env c' := by
  unfold resolveViewsFile; rw [h]

theorem resolveRuleMode_congr {c c' : Dict} (h : get kRuleMode c = get kRuleMode c') : resolveRuleMode c = resolveRuleMode c' := by
  unfold resolveRuleMode; rw [h]

theorem removedWarnings_congr {c c' : Dict} (h : ∀ k ∈ ConfigTables.REMOVED_SETTINGS, get k c = get k c') :
    removedWarnings c = removedWarnings c' := by
  unfold removedWarnings
  rw [List.filter_congr fun k hk => show has k c = has k c' by unfold has; rw [h k hk]]

theorem resolveConfig_ok {env : Env} {c : Dict} {cfg : Config} (h : resolveConfig env (.map c) = .ok cfg) :
    ∃ ss rf wr vf wv,
      resolveSources env.ext (get kDataSources c) = .ok ss ∧ resolveRulesFile env c = .ok (rf, wr) ∧
      resolveViewsFile env c = .ok (vf, wv) ∧
      cfg = { sources := ss, ruleMode := (resolveRuleMode c).1, rulesFile := rf, viewsFile := vf,
              warnings := parserWarnings ss ++ removedWarnings c ++ (resolveRuleMode c).2 ++ wr ++ wv,
              descriptionCleaning := (get kDescriptionCleaning c).getD .null } := by
  revert h
  generalize hy : Y.map c = y
  fun_cases resolveConfig env y <;> intro h <;> cases h
  cases hy
  exact ⟨_, _, _, _, _, ‹_›, ‹_›, ‹_›, by rw [‹resolveRuleMode _ = _›]⟩

theorem resolveConfig_isOk (env : Env) (c : Dict) :
    (resolveConfig env (.map c)).isOk =
      ((resolveSources env.ext (get kDataSources c)).isOk && (resolveRulesFile env c).isOk && (resolveViewsFile env c).isOk) := by
  generalize hy : Y.map c = y
  fun_cases resolveConfig env y
  case case5 h => exact (h _ hy.symm).elim  -- the arm for what is no mapping
  all_goals cases hy; simp only [*]; rfl

theorem resolveConfig_sources {env : Env} {c : Dict} {xs : List Y} {cfg : Config} (hds : get kDataSources c = some (.list xs))
    (h : resolveConfig env (.map c) = .ok cfg) : xs.mapM (resolveSource env.ext) = .ok cfg.sources := by
  obtain ⟨ss, rf, wr, vf, wv, hss, _, _, rfl⟩ := resolveConfig_ok h
  rwa [hds, resolveSources_list] at hss

theorem resolveConfig_sources_edit {env : Env} {c c' : Dict} {pre post : List Y} {x x' : Y} {cfg cfg' : Config}
    (hc : get kDataSources c = some (.list (pre ++ x :: post))) (hc' : get kDataSources c' = some (.list (pre ++ x' :: post)))
    (h : resolveConfig env (.map c) = .ok cfg) (h' : resolveConfig env (.map c') = .ok cfg') :
    ∃ A s s' B, cfg.sources = A ++ s :: B ∧ cfg'.sources = A ++ s' :: B ∧ A.length = pre.length ∧
      resolveSource env.ext x = .ok s ∧ resolveSource env.ext x' = .ok s' := by
  obtain ⟨A, s, s', B, e, e', hA, hs, hs', -⟩ :=
    List.mapM_edit (resolveConfig_sources hc h) (resolveConfig_sources hc' h')
  exact ⟨A, s, s', B, e, e', List.mapM_ok_length hA, hs, hs'⟩

theorem resolveConfig_congr_blocks (env : Env) {c c' : Dict} (hs : get kDataSources c = get kDataSources c')
    (hm : resolveRuleMode c = resolveRuleMode c') (hr : resolveRulesFile env c = resolveRulesFile env c')
    (hv : resolveViewsFile env c = resolveViewsFile env c') (hw : removedWarnings c = removedWarnings c')
    (hc : get kDescriptionCleaning c = get kDescriptionCleaning c') :
    resolveConfig env (.map c) = resolveConfig env (.map c') := by
  simp only [resolveConfig, hs, hm, hr, hv, hw, hc]

/-- every key `load_config` (and `cmd_run`'s removed-setting test) reads from the settings object -/
def topKeys : List Str :=
  ConfigTables.REMOVED_SETTINGS ++ [kDataSources, kRuleMode, kMerchantsFile, kViewsFile, kDescriptionCleaning]

/-- `load_config` looks at the keys of `topKeys` only: settings objects that agree on them load alike -/
theorem resolveConfig_congr (env : Env) (c c' : Dict) (h : ∀ k ∈ topKeys, get k c = get k c') :
    resolveConfig env (.map c) = resolveConfig env (.map c') :=
  resolveConfig_congr_blocks env (h _ (by decide)) (resolveRuleMode_congr (h _ (by decide)))
    (resolveRulesFile_congr env (h _ (by decide))) (resolveViewsFile_congr env (h _ (by decide)))
    (removedWarnings_congr fun k hk => h k (List.mem_append_left _ hk)) (h _ (by decide))

/-- setting, changing or removing a top-level key `k` that is neither `data_sources`, `description_cleaning` nor a removed setting
changes the load only through the three blocks that may read it -/
theorem resolveConfig_edit (env : Env) (c : Dict) (k : Str) (v : Y) (hk : k ∉ ConfigTables.REMOVED_SETTINGS)
    (hs : k ≠ kDataSources) (hc : k ≠ kDescriptionCleaning)
    (hm : resolveRuleMode (erase k c) = resolveRuleMode (insert k v c))
    (hr : resolveRulesFile env (erase k c) = resolveRulesFile env (insert k v c))
    (hv : resolveViewsFile env (erase k c) = resolveViewsFile env (insert k v c)) :
    resolveConfig env (.map (erase k c)) = resolveConfig env (.map (insert k v c)) :=
  resolveConfig_congr_blocks env (get_erase_insert v c (Ne.symm hs)) hm hr hv
    (removedWarnings_congr fun _ hk' => get_erase_insert v c fun e => hk (e ▸ hk')) (get_erase_insert v c (Ne.symm hc))

theorem planFrom_eq_mapM (q : Bool) (env : Env) (i : Nat) (L : List SourceCfg) :
    planFrom q env i L = ((L.zipIdx i).mapM fun sj => planOne q env sj.2 sj.1).map fun hs => hs.flatMap Option.toList := by
  induction L generalizing i with
  | nil => rfl
  | cons s L ih =>
    rw [planFrom, List.zipIdx_cons, List.mapM_except_cons, ih]
    cases planOne q env i s with
    | error e => rfl
    | ok here => cases (L.zipIdx (i + 1)).mapM fun sj => planOne q env sj.2 sj.1 <;> rfl

theorem planOne_index {q : Bool} {env : Env} {i : Nat} {s : SourceCfg} {p : Planned} (h : planOne q env i s = .ok (some p)) :
    p.index = i := by
  revert h
  fun_cases planOne q env i s <;> intro h <;> cases h <;> rfl

theorem planOne_mapM_index {q : Bool} {env : Env} {i : Nat} {L : List SourceCfg} {H : List (Option Planned)}
    (h : ((L.zipIdx i).mapM fun sj => planOne q env sj.2 sj.1) = .ok H) :
    ∀ p ∈ H.flatMap Option.toList, i ≤ p.index ∧ p.index < i + L.length := by
  intro p hp
  obtain ⟨o, ho, hpo⟩ := List.mem_flatMap.mp hp
  obtain ⟨⟨s, j⟩, hsj, hj⟩ := List.mapM_ok_mem_right h ho
  rw [Option.mem_toList.mp hpo] at hj
  rw [planOne_index hj]
  obtain ⟨hlo, hhi, -⟩ := List.mem_zipIdx hsj
  exact ⟨hlo, hhi⟩

theorem planSources_ok {q : Bool} {env : Env} {cfg : Config} {P : List Planned} (h : planSources q env cfg = .ok P) :
    planFrom q env 0 cfg.sources = .ok P := by
  revert h
  fun_cases planSources q env cfg <;> intro h <;> first | cases h | exact h

end TallyVerif.Config
