import TallyVerif.Model.Csv
/-! Tokenisation, from the text of a file to its rows.  First the csv kinds: the reader automaton is run over what the writer
wrote for one field, for the fields of a row, for a row and for a table, and ends in its start state with the table
(`run_writeCsv`, and `readCsv_writeCsv` for `Props.C05` and `Legacy`).  Then the `regex:` kind: the line loop is a `filterMap`. -/
namespace TallyVerif.Csv

section Reader

theorem runCsv_append (d : Char) (s : RS) (a b : Str) :
    runCsv d s (a ++ b) = ((runCsv d s a).1 ++ (runCsv d (runCsv d s a).2 b).1, (runCsv d (runCsv d s a).2 b).2) := by
  fun_induction runCsv d s a with
  | case1 => rfl
  | case2 s c cs s' r h rs e hrec ih => simp only [List.cons_append, runCsv, h, ih, hrec]
  | case3 s c cs s' h ih => simp only [List.cons_append, runCsv, h, ih]

theorem run_inField (d : Char) (f : Str) (h : needsQuote d f = false) (fld : Str) (row : List Str) :
    runCsv d ⟨.inField, fld, row⟩ f = ([], ⟨.inField, fld ++ f, row⟩) := by
  induction f generalizing fld with
  | nil => simp [runCsv]
  | cons c cs ih =>
    simp only [needsQuote, List.any_cons, Bool.or_eq_false_iff, beq_eq_false_iff_ne] at h
    obtain ⟨⟨⟨hcd, -⟩, hnl⟩, hcs⟩ := h
    have hs : rstep d ⟨.inField, fld, row⟩ c = (⟨.inField, fld ++ [c], row⟩, none) := by
      simp [rstep, hcd, hnl, RS.add]
    simp only [runCsv, hs]
    rw [ih hcs]
    simp

theorem run_inQuoted (d : Char) (f fld : Str) (row : List Str) :
    runCsv d ⟨.inQuoted, fld, row⟩ (escapeQuotes f) = ([], ⟨.inQuoted, fld ++ f, row⟩) := by
  fun_induction escapeQuotes f generalizing fld with
  | case1 => simp [runCsv]
  | case2 cs ih => simp only [runCsv, rstep, RS.add, if_true]; rw [ih]; simp
  | case3 c cs hc ih => simp only [runCsv, rstep, RS.add, hc, if_false]; rw [ih]; simp

/-- a written field leaves the automaton holding the field's text, outside quotes; an empty unquoted field leaves it where
it was, so only that can leave it at the start of a record -/
theorem run_writeField (d : Char) (f : Str) (st : RState) (row : List Str) (hst : st = .startField ∨ st = .startRecord) :
    ∃ e, runCsv d ⟨st, [], row⟩ (writeField d f) = ([], ⟨e, f, row⟩) ∧ e ≠ .inQuoted ∧
      (e = .startRecord → st = .startRecord ∧ f = []) := by
  have hsf : ∀ c, c ≠ '\n' → rstep d ⟨st, [], row⟩ c = stepStartField d ⟨st, [], row⟩ c := by
    intro c hc
    rcases hst with rfl | rfl
    · rfl
    · simp [rstep, hc]
  unfold writeField
  cases hq : needsQuote d f with
  | true =>  -- the opening quote, the text with its quotes doubled, the closing quote
    refine ⟨.quoteInQuoted, ?_, by decide, fun h => by cases h⟩
    simp only [if_true, runCsv, hsf '"' (by decide), stepStartField]
    simp only [show ('"' : Char) ≠ '\n' from by decide, if_false]
    rw [runCsv_append, run_inQuoted]
    simp [runCsv, rstep]
  | false =>
    simp only [Bool.false_eq_true, if_false]
    cases f with
    | nil => exact ⟨st, rfl, by rcases hst with rfl | rfl <;> decide, fun h => ⟨h, rfl⟩⟩
    | cons c cs =>  -- the first character opens the field, the others are read inside it
      refine ⟨.inField, ?_, by decide, fun h => by cases h⟩
      simp only [needsQuote, List.any_cons, Bool.or_eq_false_iff, beq_eq_false_iff_ne] at hq
      obtain ⟨⟨⟨h1, h2⟩, h3⟩, hcs⟩ := hq
      simp only [runCsv, hsf c h3, stepStartField, h3, h2, h1, if_false, RS.add, List.nil_append]
      rw [run_inField d cs hcs]
      rfl

theorem rstep_delim (d : Char) (hd1 : d ≠ '"') (hd2 : d ≠ '\n') {e : RState} (f : Str) (row : List Str)
    (he : e ≠ .inQuoted) : rstep d ⟨e, f, row⟩ d = (⟨.startField, [], row ++ [f]⟩, none) := by
  cases e <;> simp [rstep, stepStartField, RS.save, hd1, hd2] at he ⊢

/-- `hr`: at the start of a record a line feed gives the empty record instead -/
theorem rstep_newline (d : Char) (hd2 : d ≠ '\n') {e : RState} (f : Str) (row : List Str)
    (he : e ≠ .inQuoted) (hr : e ≠ .startRecord) : rstep d ⟨e, f, row⟩ '\n' = (RS.init, some (row ++ [f])) := by
  cases e <;> simp [rstep, stepStartField, RS.emit, hd2.symm] at he hr ⊢

/-- the fields of one row, joined and terminated, complete the record under way with them.  `hx`: a row that is one empty
field is not written this way (`writeRow` writes `""`), since the empty line would read back as the record without fields -/
theorem run_writeFields (d : Char) (hd1 : d ≠ '"') (hd2 : d ≠ '\n') (fs : List Str) (hne : fs ≠ []) (st : RState)
    (row : List Str) (hst : st = .startField ∨ st = .startRecord) (hx : ¬ (st = .startRecord ∧ fs = [[]])) :
    runCsv d ⟨st, [], row⟩ (joinFields d (fs.map (writeField d)) ++ ['\n']) = ([row ++ fs], RS.init) := by
  induction fs generalizing st row with
  | nil => exact absurd rfl hne
  | cons f rest ih =>
    obtain ⟨e, hrun, hq, hstart⟩ := run_writeField d f st row hst
    cases rest with
    | nil =>
      have hr : e ≠ .startRecord := fun h => hx ⟨(hstart h).1, by rw [(hstart h).2]⟩
      simp only [List.map_cons, List.map_nil, joinFields]
      rw [runCsv_append, hrun]
      simp [runCsv, rstep_newline d hd2 f row hq hr]
    | cons g rest' =>
      simp only [List.map_cons, joinFields]
      rw [List.append_assoc, runCsv_append, hrun]
      simp only [List.cons_append, runCsv, rstep_delim d hd1 hd2 f row hq, List.nil_append]
      have hrest := ih (by simp) .startField (row ++ [f]) (Or.inl rfl) (by simp)
      simp only [List.map_cons] at hrest
      rw [hrest]; simp

theorem run_writeRow (d : Char) (hd1 : d ≠ '"') (hd2 : d ≠ '\n') (row : List Str) :
    runCsv d RS.init (writeRow d row) = ([row], RS.init) := by
  fun_cases writeRow d row
  case case1 => simp [runCsv, rstep, stepStartField, RS.init, RS.emit, hd2.symm]  -- the row `[[]]`, written `""`
  case case2 h1 =>
    by_cases h0 : row = []
    · subst h0; simp [joinFields, runCsv, rstep, RS.init]
    · rw [RS.init, run_writeFields d hd1 hd2 row h0 .startRecord [] (Or.inr rfl) (fun h => h1 h.2)]
      rfl

theorem run_writeCsv (d : Char) (hd1 : d ≠ '"') (hd2 : d ≠ '\n') (rows : List (List Str)) :
    runCsv d RS.init (writeCsv d rows) = (rows, RS.init) := by
  induction rows with
  | nil => simp [writeCsv, runCsv]
  | cons r rs ih =>
    have : writeCsv d (r :: rs) = writeRow d r ++ writeCsv d rs := by simp [writeCsv]
    rw [this, runCsv_append, run_writeRow d hd1 hd2 r, ih]
    simp

theorem RS.flush_init : RS.init.flush = [] := rfl

theorem readCsv_writeCsv (d : Char) (hd1 : d ≠ '"') (hd2 : d ≠ '\n') (rows : List (List Str)) :
    readCsv d (writeCsv d rows) = rows := by
  simp only [readCsv, run_writeCsv d hd1 hd2 rows, RS.flush_init, List.append_nil]

theorem not_mem_escapeQuotes {x : Char} (hq : x ≠ '"') {f : Str} (hf : x ∉ f) : x ∉ escapeQuotes f := by
  induction f with
  | nil => simp [escapeQuotes]
  | cons c cs ih =>
    simp only [List.mem_cons, not_or] at hf
    simp only [escapeQuotes]
    split <;> simp [hq, hf.1, ih hf.2]

theorem not_mem_writeField {x : Char} (hq : x ≠ '"') (d : Char) {f : Str} (hf : x ∉ f) : x ∉ writeField d f := by
  unfold writeField
  split
  · simp [hq, not_mem_escapeQuotes hq hf]
  · exact hf

theorem not_mem_joinFields {x d : Char} (hq : x ≠ '"') (hd : x ≠ d) {row : List Str} (hr : ∀ f ∈ row, x ∉ f) :
    x ∉ joinFields d (row.map (writeField d)) := by
  induction row with
  | nil => simp [joinFields]
  | cons f fs ih =>
    obtain ⟨hf, hfs⟩ := List.forall_mem_cons.mp hr
    have hf := not_mem_writeField hq d hf
    have := ih hfs
    cases fs with
    | nil => simpa [joinFields] using hf
    | cons g gs =>
      simp only [List.map_cons, joinFields, List.mem_append, List.mem_cons, not_or] at this ⊢
      exact ⟨hf, hd, this⟩

end Reader

section RegexLines

theorem regexLoop_eq (m : Str → Option (List Str)) (hasHeader : Bool) (i : Nat) (ls : List Str) :
    regexLoop m hasHeader i ls = (if hasHeader && i == 0 then ls.drop 1 else ls).filterMap (lineRow m) := by
  induction ls generalizing i with
  | nil => split <;> rfl
  | cons l ls ih =>
    -- the lines behind this one are not line 0
    rw [regexLoop, ih, if_neg (c := (hasHeader && i + 1 == 0) = true) (by simp)]
    split
    · rfl
    · simp only [List.filterMap_cons, lineRow]
      cases (strip l).isEmpty with
      | true => rfl
      | false => simp only [Bool.false_eq_true, if_false]; cases m (strip l) <;> rfl

theorem regexLoop_zero (m : Str → Option (List Str)) (hasHeader : Bool) (ls : List Str) :
    regexLoop m hasHeader 0 ls = (if hasHeader then ls.drop 1 else ls).filterMap (lineRow m) := by
  rw [regexLoop_eq, beq_self_eq_true, Bool.and_true]

end RegexLines

end TallyVerif.Csv
