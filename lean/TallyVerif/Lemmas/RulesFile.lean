import TallyVerif.Model.RulesFile
import TallyVerif.Lemmas.Text
import TallyVerif.Lemmas.Lists
/-! Lemmas about the two parsers of rules files: for C17, and for the rule blocks of C14 and C19 (Lemmas/RulesBlock).
Both parsers are one numbered loop (`loopE`) followed by a closing step.  The laws of the loop hold for
any step (append, congruence, skipped lines, line numbers erased); each parser adds what one step of its loop does by the
kind of line (`stepS_skip/_header/_body`, `vstep_skip/_header/_body`) and that a step passes the erasure of line numbers.
The merchants file rests on two more ideas.  The names of the rules read so far are the names in the header lines read so
far, in file order (`run_names`).  A property line reads its value without a look at the record and then writes it to the
key's own field (`applyProp_eq`), so lines with different keys commute (`writeProp_comm`). -/
namespace TallyVerif.RulesFile

section Strip
/-! `isSpace`, `lstrip`, `rstrip`, `strip` are this model's own copies of the Csv model's (`Csv.isPySpace`, …): the same functions,
so what Lemmas/Text proves of those holds of these as it stands. -/

theorem lstrip_append_left (ws l : Str) (h : ws.all isSpace = true) : lstrip (ws ++ l) = lstrip l :=
  Csv.lstrip_append_of_all_space ws l h

theorem rstrip_append (a : Str) {c : Char} (b : Str) (hc : isSpace c = false) :
    rstrip (a ++ c :: b) = a ++ c :: rstrip b := by
  have := Csv.rstrip_append_of_last (a ++ [c]) b fun x hx => by rw [List.getLast?_concat] at hx; cases hx; exact hc
  rwa [List.append_assoc, List.append_assoc] at this

theorem lstrip_append_right (l ws : Str) (h : ws.all isSpace = true) :
    lstrip (l ++ ws) = lstrip l ++ if (lstrip l).isEmpty then [] else ws :=
  List.dropWhile_append_right l ws h

theorem strip_append_right (l ws : Str) (h : ws.all isSpace = true) : strip (l ++ ws) = strip l :=
  Csv.strip_append_right l ws h

theorem strip_append_left (ws l : Str) (h : ws.all isSpace = true) : strip (ws ++ l) = strip l :=
  Csv.strip_append_left ws l h

/-- white space added at either end of a line does not change what `strip` returns -/
theorem strip_pad (ws l ws' : Str) (h : ws.all isSpace = true) (h' : ws'.all isSpace = true) :
    strip (ws ++ l ++ ws') = strip l := by
  rw [strip_append_right _ _ h', strip_append_left _ _ h]

theorem strip_rstrip (l : Str) : strip (rstrip l) = strip l := by
  have e : l = rstrip l ++ (l.reverse.takeWhile isSpace).reverse := by
    rw [rstrip, ← List.reverse_append, List.takeWhile_append_dropWhile, List.reverse_reverse]
  conv => rhs; rw [e, strip_append_right _ _ (by simp)]

theorem strip_eq_self {l : Str} (hh : ∀ c, l.head? = some c → isSpace c = false)
    (hl : ∀ c, l.getLast? = some c → isSpace c = false) : strip l = l :=
  Csv.strip_eq_self l hh hl

theorem rstrip_prefix (l : Str) : rstrip l <+: l := Csv.rstrip_prefix l

theorem strip_infix (l : Str) : strip l <:+: l :=
  (rstrip_prefix _).isInfix.trans (List.dropWhile_suffix _).isInfix

theorem strip_all_space_nil {y : Str} (h : (strip y).all isSpace = true) : strip y = [] := by
  cases hs : strip y with
  | nil => rfl
  | cons a t =>
    rw [hs, List.all_cons, show isSpace a = false from Csv.strip_head y a (congrArg List.head? hs)] at h
    cases h

end Strip

theorem mem_setAdd (x y : Str) (s : List Str) : x ∈ setAdd y s ↔ x ∈ s ∨ x = y := List.mem_addIfNew

section Loop
variable {σ ε : Type}

/-- `for n, line in enumerate(lines, n)`, left at the first error -/
def loopE (f : σ → Nat → Str → Except ε σ) : Nat → σ → List Str → Except ε σ
  | _, st, [] => .ok st
  | n, st, l :: ls =>
    match f st n l with
    | .ok st' => loopE f (n + 1) st' ls
    | .error e => .error e

variable (f : σ → Nat → Str → Except ε σ)

theorem loopE_append (n : Nat) (st : σ) (a b : List Str) :
    loopE f n st (a ++ b) =
      match loopE f n st a with
      | .ok st' => loopE f (n + a.length) st' b
      | .error e => .error e := by
  fun_induction loopE f n st a <;>
    simp only [List.cons_append, List.nil_append, loopE, List.length_cons, List.length_nil, Nat.add_zero, Nat.add_assoc,
      Nat.add_comm 1, *]

theorem loopE_congr {κ : Type} (key : Str → κ) (hf : ∀ st n l l', key l = key l' → f st n l = f st n l')
    (n : Nat) (st : σ) {a b : List Str} (h : a.map key = b.map key) : loopE f n st a = loopE f n st b := by
  induction b generalizing n st a with
  | nil => rw [List.map_eq_nil_iff.mp h]
  | cons l' ls' ih =>
    obtain ⟨l, ls, rfl, hl, hls⟩ := List.map_eq_cons_iff.mp h
    simp only [loopE, hf st n l l' hl]
    cases f st n l' with
    | error e => rfl
    | ok st' => exact ih _ _ hls

variable {f} in
theorem loopE_skips (n : Nat) (st : σ) (ls : List Str) (h : ∀ l ∈ ls, ∀ n, f st n l = .ok st) :
    loopE f n st ls = .ok st := by
  induction ls generalizing n with
  | nil => rfl
  | cons l ls ih =>
    simp only [loopE, h l List.mem_cons_self]
    exact ih _ fun x hx => h x (List.mem_cons_of_mem _ hx)

/-- the line number of an error forgotten, its kind kept; a result stays as it is -/
def eraseLine {ε α : Type} : Except (Nat × ε) α → Except ε α
  | .ok a => .ok a
  | .error (_, k) => .error k

theorem eraseLine_eq_ok {ε α : Type} (x : Except (Nat × ε) α) (r : α) : eraseLine x = .ok r ↔ x = .ok r := by
  rcases x with ⟨_, _⟩ | a
  · exact ⟨nofun, nofun⟩
  · exact ⟨fun h => by cases h; rfl, fun h => by cases h; rfl⟩

/-- line numbers erased from the outcome of a loop, given how to erase them from a state -/
def eraseWith (erase : σ → σ) (x : Except (Nat × ε) σ) : Except ε σ := (eraseLine x).map erase

variable (erase : σ → σ)

theorem eraseWith_eq {x y : Except (Nat × ε) σ} (h : eraseWith erase x = eraseWith erase y) :
    (∃ a b, x = .ok a ∧ y = .ok b ∧ erase a = erase b) ∨
    (∃ n m k, x = .error (n, k) ∧ y = .error (m, k)) := by
  rcases x with ⟨n, k⟩ | a <;> rcases y with ⟨m, k'⟩ | b
  · exact .inr ⟨n, m, k, rfl, by rw [show k' = k from (Except.error.inj h).symm]⟩
  · cases h
  · cases h
  · exact .inl ⟨a, b, rfl, rfl, Except.ok.inj h⟩

/-- Up to line numbers, the loop does not depend on where the numbering starts nor on the lines its step skips:
`hf` says that one step sees the state through `erase` and not the number, `hskip` that a line not kept leaves the
state as it is. -/
theorem loopE_filter_erase (f : σ → Nat → Str → Except (Nat × ε) σ) (keep : Str → Bool)
    (hskip : ∀ st n l, keep l = false → f st n l = .ok st)
    (hf : ∀ st n l, eraseWith erase (f st n l) = eraseWith erase (f (erase st) 0 l))
    (n m : Nat) (st st' : σ) (ls : List Str) (h : erase st = erase st') :
    eraseWith erase (loopE f n st ls) = eraseWith erase (loopE f m st' (ls.filter keep)) := by
  induction ls generalizing n m st st' with
  | nil => exact congrArg Except.ok h
  | cons l ls ih =>
    cases hk : keep l
    · rw [List.filter_cons_of_neg (Bool.eq_false_iff.mp hk)]
      simp only [loopE, hskip st n l hk]
      exact ih _ _ _ _ h
    · rw [List.filter_cons_of_pos hk]
      simp only [loopE]
      have hl : eraseWith erase (f st n l) = eraseWith erase (f st' m l) := by rw [hf st n l, hf st' m l, h]
      rcases eraseWith_eq erase hl with ⟨a, b, ha, hb, hab⟩ | ⟨n', m', k, ha, hb⟩
      · rw [ha, hb]; exact ih _ _ _ _ hab
      · rw [ha, hb]; rfl

theorem loopE_erase (f : σ → Nat → Str → Except (Nat × ε) σ)
    (hf : ∀ st n l, eraseWith erase (f st n l) = eraseWith erase (f (erase st) 0 l))
    (n m : Nat) (st st' : σ) (ls : List Str) (h : erase st = erase st') :
    eraseWith erase (loopE f n st ls) = eraseWith erase (loopE f m st' ls) := by
  simpa [List.filter_eq_self.mpr] using loopE_filter_erase erase f (fun _ => true) (fun _ _ _ h => by cases h) hf n m st st' ls h

theorem eraseLine_bind_congr {ρ : Type} (fin : σ → Except (Nat × ε) ρ)
    (hfin : ∀ a, eraseLine (fin a) = eraseLine (fin (erase a)))
    {x y : Except (Nat × ε) σ} (h : eraseWith erase x = eraseWith erase y) :
    eraseLine (x.bind fin) = eraseLine (y.bind fin) := by
  rcases eraseWith_eq erase h with ⟨a, b, rfl, rfl, hab⟩ | ⟨n, m, k, rfl, rfl⟩
  · exact (hfin a).trans (hab ▸ (hfin b).symm)
  · rfl

end Loop

section Merchants

theorem run_eq_loopE (ve : Str → Bool) (n : Nat) (st : MState) (ls : List Str) :
    run ve n st ls = loopE (step ve) n st ls := by
  fun_induction run ve n st ls <;> simp only [loopE, *]

theorem run_cons_ok {ve : Str → Bool} {n : Nat} {st st' : MState} {l : Str} {ls : List Str}
    (h : step ve st n l = .ok st') : run ve n st (l :: ls) = run ve (n + 1) st' ls := by
  simp only [run, h]

theorem run_append (ve : Str → Bool) (n : Nat) (st : MState) (a b : List Str) :
    run ve n st (a ++ b) =
      match run ve n st a with
      | .ok st' => run ve (n + a.length) st' b
      | .error e => .error e := by
  simp only [run_eq_loopE, loopE_append]
  cases loopE (step ve) n st a <;> rfl

theorem parseRulesFile_eq (ve : Str → Bool) (lines : List Str) :
    Impl.parseRulesFile ve lines = (loopE (step ve) 1 {} lines).bind (finish ve) := by
  rw [Impl.parseRulesFile, run_eq_loopE]
  cases loopE (step ve) 1 {} lines <;> rfl

theorem ite_error_eq_ok {ε α : Type} {c : Prop} [Decidable c] {e : ε} {x : Except ε α} {r : α} :
    (if c then .error e else x) = .ok r ↔ ¬c ∧ x = .ok r := by
  split <;> simp [*]

theorem addRule_ok (ve : Str → Bool) (d : RuleData) (r : Rule) (h : addRule ve d = .ok r) :
    ∃ m, d.matchExpr = some m ∧ r = mkRule d m ∧ ve m = true ∧ allValid ve d.lets = true ∧
      allValid ve d.fields = true ∧ (hasCategory d || hasTags d) = true := by
  unfold addRule at h
  cases hm : d.matchExpr with
  | none => rw [hm] at h; cases h
  | some m =>
    simp only [hm, ite_error_eq_ok, Bool.not_eq_true, Bool.not_eq_false, Bool.not_eq_eq_eq_not, Bool.not_true,
      Bool.and_eq_false_iff, Except.ok.injEq] at h
    obtain ⟨h1, h2, h3, h4, rfl⟩ := h
    exact ⟨m, rfl, rfl, h4, h2, h3, by simpa using h1⟩

section Step
variable {ve : Str → Bool} {st : MState} {n : Nat} {s : Str}

theorem stepS_skip (h : isSkip s = true) : stepS ve st n s = .ok st := by
  simp only [stepS, h, if_true]

theorem stepS_header (h1 : isSkip s = false) (h2 : isHeader s = true) :
    stepS ve st n s = (closeCur ve st).bind fun st1 =>
      if (headerName s).isEmpty then .error (n, .emptyName)
      else .ok { st1 with cur := some { name := headerName s }, startLine := n } := by
  simp only [stepS, h1, h2, Bool.false_eq_true, if_false, if_true]
  cases closeCur ve st <;> rfl

theorem stepS_body (h1 : isSkip s = false) (h2 : isHeader s = false) :
    stepS ve st n s =
      match st.cur with
      | none => .ok (topLine s st)
      | some d =>
        if s.contains ':' then
          match propLine s d with
          | .ok d' => .ok { st with cur := some d' }
          | .error e => .error (n, e)
        else .error (n, .unexpectedContent) := by
  simp only [stepS, h1, h2, Bool.false_eq_true, if_false]
  cases st.cur with
  | none => rfl
  | some d => simp only; cases propLine s d <;> rfl

theorem stepS_bracket (ve : Str → Bool) (st : MState) (n : Nat) (name : Str) :
    stepS ve st n ('[' :: name ++ [']']) = (closeCur ve st).bind fun st1 =>
      if (strip name).isEmpty then .error (n, .emptyName)
      else .ok { st1 with cur := some { name := strip name }, startLine := n } := by
  have hname : headerName ('[' :: name ++ [']']) = strip name := by simp [headerName]
  have hlast : ('[' :: name ++ [']']).getLast? = some ']' := List.getLast?_concat
  rw [stepS_header (by simp [isSkip]) (by rw [isHeader, hlast]; rfl), hname]

theorem splitProp_key_colon (key rest : Str) (hc : ':' ∉ key) :
    splitProp (key ++ ':' :: rest) = (lower (strip key), strip rest) := by
  have h : ∀ a ∈ key, (a != ':') = true := fun a ha => by simpa using fun e : a = ':' => hc (e ▸ ha)
  simp [splitProp, List.takeWhile_append_of_pos h, List.dropWhile_append_of_pos h]

theorem stepS_keyValue (ve : Str → Bool) (st : MState) (d : RuleData) (n : Nat) (key rest : Str)
    (hcur : st.cur = some d) (hc : ':' ∉ key)
    (h1 : isSkip (key ++ ':' :: rest) = false) (h2 : isHeader (key ++ ':' :: rest) = false) :
    stepS ve st n (key ++ ':' :: rest) =
      match propKey? (lower (strip key)) with
      | some k =>
        match applyProp k (strip rest) d with
        | .ok d' => .ok { st with cur := some d' }
        | .error e => .error (n, e)
      | none => .error (n, .unknownProperty) := by
  rw [stepS_body h1 h2, hcur]
  simp only [List.contains_append, List.contains_cons, beq_self_eq_true, Bool.true_or, Bool.or_true, if_true, propLine,
    splitProp_key_colon key rest hc]
  cases propKey? (lower (strip key)) <;> rfl

theorem run_skip (ve : Str → Bool) (st : MState) (ls : List Str) (h : ∀ l ∈ ls, isSkip (strip l) = true) (n : Nat) :
    run ve n st ls = .ok st := by
  rw [run_eq_loopE]
  exact loopE_skips n st ls fun l hl n => stepS_skip (h l hl)

theorem isSkip_strip_hash (r : Str) : isSkip (strip ('#' :: r)) = true := by
  have h : ∀ c, some '#' = some c → isSpace c = false := fun c hc => by cases hc; decide
  have : strip ('#' :: r) = '#' :: rstrip r := Csv.strip_sandwich [] ['#'] r rfl (List.cons_ne_nil _ _) h h
  rw [this]; rfl

end Step

section Erase

/-- the state with its line number erased: everything but `startLine` -/
def eraseSt (st : MState) : MState := { st with startLine := 0 }
/-- line numbers erased from an outcome of `run`: of an error only its kind is kept, a state goes through `eraseSt` -/
def eraseR : Except (Nat × MErr) MState → Except MErr MState
  | .ok st => .ok (eraseSt st)
  | .error (_, k) => .error k

/-- `n` and `startLine` are only ever stored in `startLine` or reported in an error -/
theorem step_erase (ve : Str → Bool) (st : MState) (n : Nat) (l : Str) :
    eraseWith eraseSt (step ve st n l) = eraseWith eraseSt (step ve (eraseSt st) 0 l) := by
  unfold step
  cases h1 : isSkip (strip l)
  case true => rw [stepS_skip h1, stepS_skip h1]; rfl
  case false =>
  cases h2 : isHeader (strip l)
  case true =>
    rw [stepS_header h1 h2, stepS_header h1 h2]
    rcases st with ⟨_ | d, _, _, _, _⟩
    · cases (headerName (strip l)).isEmpty <;> rfl
    · simp only [closeCur, eraseSt]
      cases addRule ve d
      · rfl
      · cases (headerName (strip l)).isEmpty <;> rfl
  case false =>
    rw [stepS_body h1 h2, stepS_body h1 h2]
    rcases st with ⟨_ | d, _, _, _, _⟩
    · simp only [topLine, eraseSt]
      split
      · split <;> rfl
      · rfl
    · cases (strip l).contains ':'
      · rfl
      · simp only [eraseSt, if_true]; cases propLine (strip l) d <;> rfl

/-- renumbering the lines changes only the line numbers in the outcome -/
theorem run_erase (ve : Str → Bool) (n m : Nat) (st st' : MState) (ls : List Str)
    (h : eraseSt st = eraseSt st') : eraseR (run ve n st ls) = eraseR (run ve m st' ls) := by
  have heq : eraseR = eraseWith eraseSt := by funext x; cases x <;> rfl
  simp only [run_eq_loopE, heq]
  exact loopE_erase eraseSt (step ve) (step_erase ve) n m st st' ls h

theorem finish_erase (ve : Str → Bool) (a : MState) :
    eraseLine (finish ve a) = eraseLine (finish ve (eraseSt a)) := by
  rcases a with ⟨_ | d, _, _, _, _⟩
  · rfl
  · simp only [finish, closeCur, eraseSt]; cases addRule ve d <;> rfl

def nonSkipLine (l : Str) : Bool := !isSkip (strip l)

/-- a file and the same file without its blank and comment lines: the same rules, or the same kind of error -/
theorem filter_skip_neutral (ve : Str → Bool) (lines : List Str) :
    eraseLine (Impl.parseRulesFile ve lines) = eraseLine (Impl.parseRulesFile ve (lines.filter nonSkipLine)) := by
  simp only [parseRulesFile_eq]
  exact eraseLine_bind_congr eraseSt (finish ve) (finish_erase ve)
    (loopE_filter_erase eraseSt (step ve) nonSkipLine
      (fun _ _ _ h => stepS_skip (by simpa [nonSkipLine] using h)) (step_erase ve) 1 1 {} {} lines rfl)

end Erase

section Names

def isHeaderLine (l : Str) : Bool := !isSkip (strip l) && isHeader (strip l)
/-- the names between the brackets of the header lines, in file order -/
def headerNames (lines : List Str) : List Str := (lines.filter isHeaderLine).map fun l => headerName (strip l)
def namesOf (st : MState) : List Str :=
  st.rules.map (·.name) ++ (match st.cur with | some d => [d.name] | none => [])

theorem propLine_name {s : Str} {d d' : RuleData} (h : propLine s d = .ok d') : d'.name = d.name := by
  revert h
  fun_cases propLine s d with
  | case1 k hk => fun_cases applyProp k (splitProp s).2 d <;> intro h <;> cases h <;> rfl
  | case2 => nofun

theorem closeCur_names (ve : Str → Bool) (st st' : MState) (h : closeCur ve st = .ok st') :
    namesOf st' = namesOf st ∧ st'.cur = none := by
  revert h
  fun_cases closeCur ve st with
  | case1 hc => intro h; cases h; exact ⟨rfl, hc⟩  -- no rule open
  | case2 d hc r ha =>  -- the open rule `d` is accepted as `r`
    intro h; cases h; obtain ⟨m, _, rfl, _⟩ := addRule_ok ve d r ha; simp [namesOf, hc, mkRule]
  | case3 => nofun  -- it is refused

theorem topLine_frame (s : Str) (st : MState) :
    topLine s st = { st with variables := (topLine s st).variables, transforms := (topLine s st).transforms } := by
  fun_cases topLine s st <;> rfl

/-- a header line closes the rule being read and opens the next; no other line touches a name -/
theorem step_names (ve : Str → Bool) (st st' : MState) (n : Nat) (l : Str) (h : step ve st n l = .ok st') :
    if isHeaderLine l then namesOf st' = namesOf st ++ [headerName (strip l)] ∧ st'.cur.isSome = true
    else namesOf st' = namesOf st ∧ st'.cur.isSome = st.cur.isSome := by
  unfold step at h; unfold isHeaderLine
  revert h
  fun_cases stepS ve st n (strip l) with
  | case1 h1 => intro h; cases h; simp [h1]  -- blank or comment line
  | case4 h1 h2 st1 hc =>  -- header line; `st1` is `st` with its rule closed
    intro h; cases h
    obtain ⟨hn, hcur⟩ := closeCur_names ve st st1 hc
    rw [← hn]; simp [h1, h2, namesOf, hcur]
  | case5 h1 h2 hc =>  -- line before the first header
    intro h; cases h; rw [topLine_frame]; simp [h1, h2, namesOf, hc]
  | case6 h1 h2 d hc _ d' hp =>  -- property line, read into `d'`
    intro h; cases h; simp [h1, h2, namesOf, hc, propLine_name hp]
  | _ => nofun  -- the refusals

theorem run_names (ve : Str → Bool) (n : Nat) (st st' : MState) (ls : List Str) (h : run ve n st ls = .ok st') :
    namesOf st' = namesOf st ++ headerNames ls ∧ st'.cur.isSome = (st.cur.isSome || ls.any isHeaderLine) := by
  revert h
  fun_induction run ve n st ls with
  | case1 => intro h; cases h; simp [headerNames]
  | case2 n st l ls st1 hs ih =>
    intro h
    have := step_names ve st st1 n l hs
    rw [(ih h).1, (ih h).2, List.any_cons]
    cases hh : isHeaderLine l <;> simp [hh] at this <;> simp [headerNames, hh, this]
  | case3 => nofun

theorem finish_names (ve : Str → Bool) (st : MState) (r : RulesFileResult) (h : finish ve st = .ok r) :
    r.rules.map (·.name) = namesOf st := by
  revert h
  fun_cases finish ve st with
  | case1 st' hc => intro h; cases h; obtain ⟨hn, hcur⟩ := closeCur_names ve st st' hc; rw [← hn]; simp [namesOf, hcur]
  | case2 => nofun

end Names

section Properties
/-! `applyProp` in two steps (`applyProp_eq`): `readProp` reads the value, or refuses it, without a look at the record;
`writeProp` stores what was read (a `PropKey.Arg`) in the key's own field.  Writes to different fields commute. -/

abbrev PropKey.Arg : PropKey → Type
  | .let | .field => Str × Str
  | .tags => List Str
  | .priority => Int
  | _ => Str

def readProp : (k : PropKey) → Str → Except MErr k.Arg
  | .let, v => match matchLetAssign v with | some a => .ok a | none => .error .badLet
  | .field, v => match matchLetAssign v with | some a => .ok a | none => .error .badField
  | .priority, v => match pyInt v with | some n => .ok n | none => .error .badPriority
  | .tags, v => .ok (splitTags v)
  | .match, v | .category, v | .subcategory, v | .merchant, v => .ok v

def writeProp : (k : PropKey) → k.Arg → RuleData → RuleData
  | .let, a, d => { d with lets := d.lets ++ [(lower a.1, a.2)] }
  | .field, a, d => { d with fields := dictSet (lower a.1) a.2 d.fields }
  | .match, v, d => { d with matchExpr := some v }
  | .category, v, d => { d with category := some v }
  | .subcategory, v, d => { d with subcategory := some v }
  | .merchant, v, d => { d with merchant := some v }
  | .tags, l, d => { d with tags := some l }
  | .priority, n, d => { d with priority := some n }

theorem applyProp_eq (k : PropKey) (v : Str) (d : RuleData) :
    applyProp k v d = (readProp k v).map (writeProp k · d) := by
  fun_cases applyProp k v d <;> simp only [readProp, *] <;> rfl

theorem writeProp_comm (k1 k2 : PropKey) (a1 : k1.Arg) (a2 : k2.Arg) (d : RuleData) (hne : k1 ≠ k2) :
    writeProp k2 a2 (writeProp k1 a1 d) = writeProp k1 a1 (writeProp k2 a2 d) := by
  cases k1 <;> cases k2 <;> first | rfl | exact absurd rfl hne

/-- the result, if there is one; which error was raised is forgotten (of two bad lines the first is reported) -/
def okPart {ε α : Type} : Except ε α → Option α
  | .ok a => some a
  | .error _ => none

theorem okPart_bind {ε α β : Type} (x : Except ε α) (f : α → Except ε β) :
    okPart (x.bind f) = (okPart x).bind fun a => okPart (f a) := by
  cases x <;> rfl

theorem applyProp_comm (k1 k2 : PropKey) (v1 v2 : Str) (d : RuleData) (hne : k1 ≠ k2) :
    okPart ((applyProp k1 v1 d).bind (applyProp k2 v2)) = okPart ((applyProp k2 v2 d).bind (applyProp k1 v1)) := by
  simp only [funext (applyProp_eq _ _), applyProp_eq]
  cases readProp k1 v1 <;> cases readProp k2 v2 <;> try rfl
  exact congrArg some (writeProp_comm k1 k2 _ _ d hne)

/-- the property the raw line `l` sets: the key of its stripped text, when that is a `key: value` line (no blank, comment or
header line) with a known key; `none` otherwise -/
def propKeyOf (l : Str) : Option PropKey :=
  if isSkip (strip l) || isHeader (strip l) || !(strip l).contains ':' then none
  else propKey? (splitProp (strip l)).1

/-- one property line read inside a rule; the state is spelt out so that the equation has no side condition and can be
used for two lines in a row -/
theorem run_prop_cons {ve : Str → Bool} {n sl : Nat} {d : RuleData} {rs : List Rule} {vs ts : List (Str × Str)}
    {l : Str} {rest : List Str} {k : PropKey} (h : propKeyOf l = some k) :
    okPart ((run ve n ⟨some d, sl, rs, vs, ts⟩ (l :: rest)).bind (finish ve)) =
      (okPart (applyProp k (splitProp (strip l)).2 d)).bind fun d' =>
        okPart ((run ve (n + 1) ⟨some d', sl, rs, vs, ts⟩ rest).bind (finish ve)) := by
  revert h
  fun_cases propKeyOf l with
  | case1 => nofun  -- not a `key: value` line
  | case2 hc =>
    intro h
    simp only [Bool.or_eq_true, Bool.not_eq_true', not_or, Bool.not_eq_true, Bool.not_eq_false] at hc
    obtain ⟨⟨h1, h2⟩, h3⟩ := hc
    simp only [run, step, stepS_body h1 h2, h3, if_true, propLine, h]
    cases applyProp k (splitProp (strip l)).2 d <;> rfl

end Properties

end Merchants

section Views

theorem vrun_eq_loopE (ve : Str → Bool) (w : Char → Bool) (n : Nat) (st : VState) (ls : List Str) :
    vrun ve w n st ls = loopE (vstep ve w) n st ls := by
  fun_induction vrun ve w n st ls <;> simp only [loopE, *]

theorem vrun_append (ve : Str → Bool) (w : Char → Bool) (n : Nat) (st : VState) (a b : List Str) :
    vrun ve w n st (a ++ b) =
      match vrun ve w n st a with
      | .ok st' => vrun ve w (n + a.length) st' b
      | .error e => .error e := by
  simp only [vrun_eq_loopE, loopE_append]
  cases loopE (vstep ve w) n st a <;> rfl

theorem parseViewsFile_eq (ve : Str → Bool) (w : Char → Bool) (lines : List Str) :
    Impl.parseViewsFile ve w lines = (loopE (vstep ve w) 1 {} lines).bind vfinish := by
  rw [Impl.parseViewsFile, vrun_eq_loopE]
  cases loopE (vstep ve w) 1 {} lines <;> rfl

section Step

theorem vstep_skip {ve : Str → Bool} {w : Char → Bool} {st : VState} {n : Nat} {l : Str} (h : isSkipRaw l = true) :
    vstep ve w st n l = .ok st := by
  simp only [vstep, h, if_true]

theorem vstep_header {ve : Str → Bool} {w : Char → Bool} {st : VState} {n : Nat} {l name : Str}
    (h1 : isSkipRaw l = false) (h2 : matchSectionHeader l = some name) :
    vstep ve w st n l = (closeSection st).bind fun st1 =>
      .ok { st1 with cur := some { name := strip name, filterExpr := [], description := none, variables := [] },
                     startLine := n } := by
  simp only [vstep, h1, h2, Bool.false_eq_true, if_false]
  cases closeSection st <;> rfl

theorem vstep_body {ve : Str → Bool} {w : Char → Bool} {st : VState} {n : Nat} {l : Str}
    (h1 : isSkipRaw l = false) (h2 : matchSectionHeader l = none) :
    vstep ve w st n l = vbodyS ve w st n (strip l) := by
  simp only [vstep, h1, h2, Bool.false_eq_true, if_false]

theorem vrun_skip (ve : Str → Bool) (w : Char → Bool) (st : VState) (ls : List Str) (h : ∀ l ∈ ls, isSkipRaw l = true)
    (n : Nat) : vrun ve w n st ls = .ok st := by
  rw [vrun_eq_loopE]
  exact loopE_skips n st ls fun l hl n => vstep_skip (h l hl)

end Step

section Key

/-- everything the views loop reads from a raw line -/
def vkey (l : Str) : Bool × Option Str × Str := (isSkipRaw l, matchSectionHeader l, strip l)

theorem ne_of_isSpace {c b : Char} (h : isSpace c = true) (hb : isSpace b = false) : c ≠ b :=
  fun hc => by rw [hc, hb] at h; cases h

theorem isSkipRaw_append_right (l ws : Str) (h : ws.all isSpace = true) :
    isSkipRaw (l ++ ws) = isSkipRaw l := by
  unfold isSkipRaw
  rw [lstrip_append_right l ws h]
  cases lstrip l <;> rfl

theorem isSkipRaw_append_left (ws l : Str) (h : ws.all isSpace = true) :
    isSkipRaw (ws ++ l) = isSkipRaw l := by
  unfold isSkipRaw; rw [lstrip_append_left ws l h]

theorem matchSectionHeader_of_ne {c : Char} {t : Str} (hc : c ≠ '[') : matchSectionHeader (c :: t) = none := by
  unfold matchSectionHeader
  split
  · next h => cases h; exact absurd rfl hc
  · rfl

theorem matchSectionHeader_indented (ws l : Str) (h : ws.all isSpace = true) (hl : matchSectionHeader l = none) :
    matchSectionHeader (ws ++ l) = none := by
  cases ws with
  | nil => exact hl
  | cons c cs => exact matchSectionHeader_of_ne (ne_of_isSpace (List.all_eq_true.mp h c List.mem_cons_self) (by decide))

theorem matchSectionHeader_append_right (l ws : Str) (h : ws.all isSpace = true) :
    matchSectionHeader (l ++ ws) = matchSectionHeader l := by
  have hws : ws.all (· != ']') = true :=
    List.all_eq_true.mpr fun c hc => by simpa using ne_of_isSpace (List.all_eq_true.mp h c hc) (by decide)
  cases l with
  | nil => exact List.append_nil ws ▸ matchSectionHeader_indented ws [] h rfl
  | cons c rest =>
    by_cases hc : c = '['
    · subst hc
      -- what `dropWhile` stops at is the `]`
      have hd := List.head?_dropWhile_not (· != ']') rest
      simp only [List.cons_append, matchSectionHeader, List.dropWhile_append_right _ _ hws, List.takeWhile_append_right _ _ hws]
      cases hr : rest.dropWhile (· != ']') with
      | nil => rfl
      | cons y tail =>
        rw [hr] at hd
        obtain rfl : y = ']' := by simpa using hd
        simp only [List.isEmpty_cons, Bool.false_eq_true, if_false, List.append_nil, List.cons_append, List.all_append, h,
          Bool.and_true]
    · rw [List.cons_append, matchSectionHeader_of_ne hc, matchSectionHeader_of_ne hc]

theorem vkey_append_right (l ws : Str) (h : ws.all isSpace = true) : vkey (l ++ ws) = vkey l := by
  simp only [vkey, isSkipRaw_append_right l ws h, matchSectionHeader_append_right l ws h,
    strip_append_right l ws h]

theorem vkey_indent (ws l : Str) (h : ws.all isSpace = true) (hl : matchSectionHeader l = none) :
    vkey (ws ++ l) = vkey l := by
  simp only [vkey, isSkipRaw_append_left ws l h, matchSectionHeader_indented ws l h hl, hl, strip_append_left ws l h]

theorem vkey_eq_neutral (ve : Str → Bool) (w : Char → Bool) (lines lines' : List Str)
    (h : lines.map vkey = lines'.map vkey) : Impl.parseViewsFile ve w lines = Impl.parseViewsFile ve w lines' := by
  rw [parseViewsFile_eq, parseViewsFile_eq, loopE_congr (vstep ve w) vkey ?_ 1 {} h]
  intro st n l l' hl
  simp only [vkey, Prod.mk.injEq] at hl
  obtain ⟨hskip, hhdr, hstrip⟩ := hl
  simp only [vstep, hskip, hhdr, hstrip]

end Key

section Erase

def eraseVSt (st : VState) : VState := { st with startLine := 0 }
def eraseVR : Except (Nat × VErr) VState → Except VErr VState
  | .ok st => .ok (eraseVSt st)
  | .error (_, k) => .error k

theorem vstep_erase (ve : Str → Bool) (w : Char → Bool) (st : VState) (n : Nat) (l : Str) :
    eraseWith eraseVSt (vstep ve w st n l) = eraseWith eraseVSt (vstep ve w (eraseVSt st) 0 l) := by
  cases h1 : isSkipRaw l
  case true => rw [vstep_skip h1, vstep_skip h1]; rfl
  case false =>
  cases h2 : matchSectionHeader l with
  | none =>
    rw [vstep_body h1 h2, vstep_body h1 h2]
    -- no branch of `vbodyS` tests `n` or `startLine`: under the branch's conditions (`*`) the right side takes the same branch,
    -- and the two results differ at most in the line number of an error and in `startLine`
    fun_cases vbodyS ve w st n (strip l) <;> simp [vbodyS, eraseVSt, *] <;> rfl
  | some name =>
    rw [vstep_header h1 h2, vstep_header h1 h2]
    rcases st with ⟨_ | sec, _, _, _⟩
    · rfl
    · simp only [closeSection, eraseVSt]; cases sec.filterExpr.isEmpty <;> rfl

theorem vrun_erase (ve : Str → Bool) (w : Char → Bool) (n m : Nat) (st st' : VState) (ls : List Str)
    (h : eraseVSt st = eraseVSt st') : eraseVR (vrun ve w n st ls) = eraseVR (vrun ve w m st' ls) := by
  have heq : eraseVR = eraseWith eraseVSt := by funext x; cases x <;> rfl
  simp only [vrun_eq_loopE, heq]
  exact loopE_erase eraseVSt (vstep ve w) (vstep_erase ve w) n m st st' ls h

theorem vfinish_erase (a : VState) : eraseLine (vfinish a) = eraseLine (vfinish (eraseVSt a)) := by
  rcases a with ⟨_ | sec, _, _, _⟩
  · rfl
  · simp only [vfinish, closeSection, eraseVSt]; cases sec.filterExpr.isEmpty <;> rfl

def nonSkipRaw (l : Str) : Bool := !isSkipRaw l

theorem filter_skip_neutral_views (ve : Str → Bool) (w : Char → Bool) (lines : List Str) :
    eraseLine (Impl.parseViewsFile ve w lines) = eraseLine (Impl.parseViewsFile ve w (lines.filter nonSkipRaw)) := by
  simp only [parseViewsFile_eq]
  exact eraseLine_bind_congr eraseVSt vfinish vfinish_erase
    (loopE_filter_erase eraseVSt (vstep ve w) nonSkipRaw
      (fun _ _ _ h => vstep_skip (by simpa [nonSkipRaw] using h)) (vstep_erase ve w) 1 1 {} {} lines rfl)

end Erase

section Names

def vheaderNames (lines : List Str) : List Str :=
  lines.filterMap fun l => if isSkipRaw l then none else (matchSectionHeader l).map strip
def vnamesOf (st : VState) : List Str :=
  st.sections.map (·.name) ++ (match st.cur with | some d => [d.name] | none => [])

theorem closeSection_names (st st' : VState) (h : closeSection st = .ok st') :
    vnamesOf st' = vnamesOf st ∧ st'.cur = none := by
  revert h
  fun_cases closeSection st with
  | case1 hc => intro h; cases h; exact ⟨rfl, hc⟩  -- no section open
  | case2 => nofun  -- the open section has no filter
  | case3 sec hc => intro h; cases h; simp [vnamesOf, hc]  -- the open section `sec` is saved

theorem vstep_names (ve : Str → Bool) (w : Char → Bool) (st st' : VState) (n : Nat) (l : Str)
    (h : vstep ve w st n l = .ok st') : vnamesOf st' = vnamesOf st ++ vheaderNames [l] := by
  unfold vheaderNames
  revert h
  fun_cases vstep ve w st n l with
  | case1 h1 => intro h; cases h; simp [h1]  -- blank or comment line
  | case2 => nofun  -- header line, the section before it refused
  | case3 h1 name h2 st1 hc =>  -- header line; `st1` is `st` with its section closed
    intro h; cases h
    obtain ⟨hn, hcur⟩ := closeSection_names st st1 hc
    rw [← hn]; simp [h1, h2, vnamesOf, hcur]
  | case4 h1 h2 =>  -- a body line writes the globals, or components of the current section other than its name
    fun_cases vbodyS ve w st n (strip l) <;> intro h <;> cases h <;> simp_all [vnamesOf]

theorem vrun_names (ve : Str → Bool) (w : Char → Bool) (n : Nat) (st st' : VState) (ls : List Str)
    (h : vrun ve w n st ls = .ok st') : vnamesOf st' = vnamesOf st ++ vheaderNames ls := by
  revert h
  fun_induction vrun ve w n st ls with
  | case1 => intro h; cases h; simp [vheaderNames]
  | case2 n st l ls st1 hs ih =>
    intro h
    rw [ih h, vstep_names ve w st st1 n l hs, List.append_assoc]
    simp only [vheaderNames, ← List.filterMap_append, List.singleton_append]
  | case3 => nofun

theorem vfinish_names (st : VState) (r : ViewsResult) (h : vfinish st = .ok r) :
    r.sections.map (·.name) = vnamesOf st := by
  revert h
  fun_cases vfinish st with
  | case1 st' hc => intro h; cases h; obtain ⟨hn, hcur⟩ := closeSection_names st st' hc; rw [← hn]; simp [vnamesOf, hcur]
  | case2 => nofun

end Names

end Views

end TallyVerif.RulesFile
