import TallyVerif.Model.Csv
import TallyVerif.Lemmas.Lists
/-! What `str.strip()` does to a text, given its first and last characters or the blanks around it; where the blanks lie among
the code points; the characters of the decimal digits.  For every component that strips text: `Csv`, `Strptime`, `Legacy`, and
`RulesFile` with what is built on it, whose `strip` is the same function under another name. -/
namespace TallyVerif.Csv

theorem lstrip_append_of_all_space (pre s : Str) (h : pre.all isPySpace = true) : lstrip (pre ++ s) = lstrip s :=
  List.dropWhile_append_of_pos (List.all_eq_true.mp h)

theorem rstrip_append_of_all_space (s post : Str) (h : post.all isPySpace = true) : rstrip (s ++ post) = rstrip s := by
  unfold rstrip
  rw [List.reverse_append, List.dropWhile_append_of_pos (by simpa using h)]

theorem lstrip_of_head (s : Str) (h : ∀ c, s.head? = some c → isPySpace c = false) : lstrip s = s := by
  cases s with
  | nil => rfl
  | cons c r => simp [lstrip, h c rfl]

theorem rstrip_append_of_last (s post : Str) (hl : ∀ c, s.getLast? = some c → isPySpace c = false) :
    rstrip (s ++ post) = s ++ rstrip post := by
  have hrev : s.reverse.dropWhile isPySpace = s.reverse := lstrip_of_head s.reverse (by rwa [List.head?_reverse])
  unfold rstrip
  rw [List.reverse_append, List.dropWhile_append, hrev]
  split
  · next he => simp [List.isEmpty_iff.mp he]
  · simp

theorem rstrip_of_last (s : Str) (h : ∀ c, s.getLast? = some c → isPySpace c = false) : rstrip s = s := by
  simpa [rstrip] using rstrip_append_of_last s [] h

theorem rstrip_prefix (s : Str) : rstrip s <+: s := by
  unfold rstrip
  simpa using List.reverse_prefix.mpr (List.dropWhile_suffix isPySpace (l := s.reverse))

theorem strip_eq_self (s : Str) (hh : ∀ c, s.head? = some c → isPySpace c = false)
    (hl : ∀ c, s.getLast? = some c → isPySpace c = false) : strip s = s := by
  rw [strip, lstrip_of_head s hh, rstrip_of_last s hl]

theorem strip_append_left (ws s : Str) (h : ws.all isPySpace = true) : strip (ws ++ s) = strip s := by
  unfold strip; rw [lstrip_append_of_all_space ws s h]

theorem strip_append_right (s ws : Str) (h : ws.all isPySpace = true) : strip (s ++ ws) = strip s := by
  unfold strip lstrip
  rw [List.dropWhile_append_right s ws h]
  apply rstrip_append_of_all_space
  -- behind what `lstrip` leaves of `s` stands `ws`, or nothing when that is empty
  split
  · rfl
  · exact h

theorem strip_pad (pre s post : Str) (hpre : pre.all isPySpace = true) (hpost : post.all isPySpace = true)
    (hh : ∀ c, s.head? = some c → isPySpace c = false) (hl : ∀ c, s.getLast? = some c → isPySpace c = false) :
    strip (pre ++ s ++ post) = s := by
  rw [strip_append_right _ _ hpost, strip_append_left _ _ hpre, strip_eq_self s hh hl]

theorem strip_sandwich (pre tok post : Str) (hpre : pre.all isPySpace = true) (hne : tok ≠ [])
    (hhead : ∀ c, tok.head? = some c → isPySpace c = false) (hlast : ∀ c, tok.getLast? = some c → isPySpace c = false) :
    strip (pre ++ tok ++ post) = tok ++ rstrip post := by
  have hh : ∀ c, (tok ++ post).head? = some c → isPySpace c = false := by
    obtain ⟨c0, r0, rfl⟩ := List.exists_cons_of_ne_nil hne
    exact hhead
  rw [strip, List.append_assoc, lstrip_append_of_all_space pre _ hpre, lstrip_of_head _ hh, rstrip_append_of_last tok post hlast]

theorem strip_head (s : Str) : ∀ c, (strip s).head? = some c → isPySpace c = false := by
  intro c hc
  -- `strip s` is a prefix of `lstrip s`, whose head is not a blank
  obtain ⟨t, ht⟩ : strip s <+: lstrip s := rstrip_prefix (lstrip s)
  have hh : (lstrip s).head? = some c := by
    rw [← ht, List.head?_append, hc]; rfl
  have hnot := List.head?_dropWhile_not isPySpace s
  rw [← lstrip, hh] at hnot
  simpa using hnot

theorem strip_last (s : Str) : ∀ c, (strip s).getLast? = some c → isPySpace c = false := by
  intro c hc
  rw [strip, rstrip, List.getLast?_reverse] at hc
  have hnot := List.head?_dropWhile_not isPySpace (lstrip s).reverse
  rw [hc] at hnot
  simpa using hnot

theorem isPySpace_range {c : Char} (h : isPySpace c = true) : c.toNat ≤ 32 ∨ 0x85 ≤ c.toNat := by
  simp only [isPySpace, Bool.or_eq_true, Bool.and_eq_true, decide_eq_true_eq, beq_iff_eq] at h
  omega

theorem digitChar_toNat {d : Nat} (h : d < 10) : (digitChar d).toNat = 48 + d := by
  revert d; decide

theorem digitVal_digitChar {d : Nat} (h : d < 10) : digitVal? (digitChar d) = some d := by
  revert d; decide

/-- for a literal `c`, `hc` is closed by `rfl` -/
theorem digitChar_ne {d : Nat} (h : d < 10) {c : Char} (hc : digitVal? c = none) : digitChar d ≠ c := by
  intro e; rw [← e, digitVal_digitChar h] at hc; cases hc

theorem digitChar_not_space {d : Nat} (h : d < 10) : isPySpace (digitChar d) = false := by
  revert d; decide

end TallyVerif.Csv
