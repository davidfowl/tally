import TallyVerif.Lemmas.FsBase
/-! Exhaustive kernel-checked evaluation of `upRunCheck` on the REPAIRED step order (`Variants.repaired`), every budget shape:
what the fault clause of `tally up --migrate` asks of the run's own classification.  Its trees are crash states (`up_fault_cases`).
`decide +kernel`: no axioms. -/
namespace TallyVerif.Fs

theorem upRun_all : (allShapes.all fun s => upRunCheck .repaired (s.fs id)) = true := by decide +kernel

end TallyVerif.Fs
