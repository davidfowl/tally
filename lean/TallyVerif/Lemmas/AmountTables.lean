import TallyVerif.Model.Csv
import TallyVerif.Gen.AmountTables
/-!
`parse_amount` as a program over its CONSTANTS, and the proof that with the constants regenerated from parsers.py
(`Gen/AmountTables.lean`) it is the hand model `Csv.cleanAmount` the C05 theorems are proved about.
-/
namespace TallyVerif.Csv

/-- the straight-line program of `parse_amount` before `float()`, for arbitrary constants: parenthesis pair, currency class,
the decimal separator of the comma mode with the characters removed before it is turned into the point, the characters removed
in the point mode (`.replace(a, '').replace(b, '')` removes every `a` and every `b`: a filter) -/
def cleanWith (po pc : Char) (cur : List Char) (euSep : Char) (euRem : List Char) (pt : Char) (usRem : List Char)
    (eu : Bool) (cell : Str) : Bool × Str :=
  let s := strip cell
  let paren := s.head? == some po && s.getLast? == some pc
  let s := if paren then (s.drop 1).dropLast else s
  let s := strip (s.filter fun c => !cur.contains c)
  let s := if eu then (s.filter fun c => !euRem.contains c).map (fun c => if c == euSep then pt else c)
           else s.filter fun c => !usRem.contains c
  (paren, s)

open TallyVerif.Gen.AmountTables in
/-- with the constants read from the source on this run, the program IS `cleanAmount` -/
theorem cleanWith_generated (eu : Bool) (cell : Str) :
    cleanWith parenOpen parenClose currencySymbols euSeparator euRemoved decimalPoint usRemoved eu cell = cleanAmount eu cell := by
  -- `simp` turns `contains` into tests `decide (c = x)`; the model writes `c == x`
  have hb : ∀ a b : Char, (a == b) = decide (a = b) := fun _ _ => rfl
  have hcur : (fun c : Char => !currencySymbols.contains c) = fun c => !isCurrency c := by
    funext c; simp [currencySymbols, isCurrency, hb, Bool.and_assoc]
  have heu : (fun c : Char => !euRemoved.contains c) = fun c => c != '.' && c != ' ' := by
    funext c; simp [euRemoved, bne, hb]
  have hus : (fun c : Char => !usRemoved.contains c) = fun c => c != ',' := by
    funext c; simp [usRemoved, bne, hb]
  simp only [cleanWith, cleanAmount, hcur, heu, hus, parenOpen, parenClose, euSeparator, decimalPoint]
  rfl

end TallyVerif.Csv
