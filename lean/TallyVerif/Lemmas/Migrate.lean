import TallyVerif.Model.Migrate
import TallyVerif.Lemmas.RulesBlock
import TallyVerif.Lemmas.Lists
/-! Lemmas for C14 (M-Migrate): the literal decoder against the escaping, each modifier form against its conjuncts, tags,
and the generated file through the merchants parser. -/

namespace TallyVerif.Migrate
open TallyVerif.RulesFile

theorem go_plain_pyEscape (c : Char) (hc : isBreak c = false) (p : Str) :
    go .plain (pyEscape true (c :: p)) = push c (go .plain (pyEscape true p)) := by
  simp only [pyEscape, replaceChar, if_true, List.flatMap_cons, List.flatMap_append]
  by_cases h1 : c = '\\'
  · subst h1; rfl
  · by_cases h2 : c = '"'
    · subst h2; rfl
    · have hk : plainAct c = .keep := by simp [plainAct, h1, h2, hc]
      simp [h1, h2, go, hk]

theorem hitConj_nil (t : Txn) : hitConj t [] = true := rfl

def okTrue : Except Unit Bool → Bool
  | .ok true => true
  | _ => false

@[simp] theorem okTrue_ok (b : Bool) : okTrue (.ok b) = b := by cases b <;> rfl
@[simp] theorem okTrue_error (e : Unit) : okTrue (.error e) = false := rfl

/-- `and` stops at the first conjunct that is false or raises: the expression counts as matching exactly when every
conjunct evaluates to true -/
theorem hitConj_eq_all (t : Txn) (l : List Atom) : hitConj t l = l.all fun a => okTrue (a.eval t) := by
  unfold hitConj
  fun_induction evalConj t l with
  | case1 => rfl
  | case2 a rest e h => simp [h]  -- `a` raises
  | case3 a rest h => simp [h]  -- `a` is false
  | case4 a rest h ih => simp [h, ih]  -- `a` is true: the rest decides

theorem hitConj_cons (t : Txn) (a : Atom) (l : List Atom) :
    hitConj t (a :: l) = (okTrue (a.eval t) && hitConj t l) := by
  simp only [hitConj_eq_all, List.all_cons]

theorem amountAtoms_hit (fixB : Bool) (eps : NumLit) (t : Txn) (a : Int) (ha : t.amount = some a) (c : AmountCond)
    (hc : fixB = true ∨ ∀ v, c ≠ .eq v) :
    hitConj t (amountAtoms fixB eps c) = evalAmountCond eps.val a c := by
  fun_cases amountAtoms fixB eps c
  -- `[amount=v]` from the pinned generator (`fixB = false`): what `hc` rules out
  case case3 v h => exact absurd rfl (hc.resolve_left h v)
  all_goals simp [hitConj_cons, hitConj_nil, Atom.eval, Txn.engineAmount, ha, Cmp.onInt, evalAmountCond]

theorem dateAtoms_hit (cutoff : Nat → Date) (t : Txn) (c : DateCond) (hv : c.valid = true) (hc : c.isRelative = false) :
    hitConj t (dateAtoms c) = match t.date with | none => false | some d => evalDateCond cutoff d c := by
  cases c with
  | relative n => cases hc
  | month m =>
    -- without a date the engine compares `month == m` with month 0: here `valid` (1 ≤ m) is needed
    have h0 : (0 == m) = false := by
      simp only [DateCond.valid, Bool.and_eq_true, decide_eq_true_eq] at hv
      simp; omega
    cases hd : t.date <;> simp [dateAtoms, hitConj_cons, hitConj_nil, Atom.eval, evalDateCond, hd, h0]
  | _ => cases hd : t.date <;> simp [dateAtoms, hitConj_cons, hitConj_nil, Atom.eval, Cmp.onNat, evalDateCond, hd]

/-- The generated modifier expression matches exactly when `check_all_conditions` holds, for either generator as long as
`[amount=v]` is only handed to the repaired one (D14b). -/
theorem modifier_hit (fixB : Bool) (eps : NumLit) (cutoff : Nat → Date) (p : Parsed) (t : Txn)
    (hrel : p.noRelative = true) (hval : p.valid = true) (ha : t.amount.isSome = true ∨ p.amount = [])
    (hB : fixB = true ∨ ∀ c ∈ p.amount, ∀ v, c ≠ .eq v) :
    hitConj t (modifierExpr fixB eps p) = checkAll eps.val cutoff p t.amount t.date := by
  rw [modifierExpr, hitConj_eq_all, List.all_append, List.all_flatMap, List.all_flatMap]
  simp only [← hitConj_eq_all, checkAll]
  congr 1
  · rcases ha with ha | ha
    · obtain ⟨a, ha⟩ := Option.isSome_iff_exists.mp ha
      simp only [ha]
      exact List.all_congr_mem fun c hc => amountAtoms_hit fixB eps t a ha c (hB.imp_right fun h => h c hc)
    · simp [ha]
  · refine List.all_congr_mem fun c hc => dateAtoms_hit cutoff t c (List.all_eq_true.mp hval c hc) ?_
    simpa using List.all_eq_true.mp hrel c hc

theorem amountAtoms_noNote (fixB : Bool) (eps : NumLit) (c : AmountCond) : (amountAtoms fixB eps c).any Atom.isNote = false := by
  cases c <;> cases fixB <;> rfl

theorem dateAtoms_isNote (c : DateCond) : (dateAtoms c).any Atom.isNote = c.isRelative := by
  cases c <;> rfl

theorem noNote_of_noRelative (fixB : Bool) (eps : NumLit) (p : Parsed) (h : p.noRelative = true) :
    (modifierExpr fixB eps p).any Atom.isNote = false := by
  simp only [modifierExpr, List.any_append, List.any_flatMap, amountAtoms_noNote, dateAtoms_isNote, List.any_eq_false,
    Bool.or_eq_false_iff, Bool.false_eq_true, not_false_eq_true, implies_true, true_and]
  intro c hc
  simpa using List.all_eq_true.mp h c hc

theorem modsHit_noNote (t : Txn) {l : List Atom} (h : l.any Atom.isNote = false) : modsHit t l = hitConj t l := by
  cases l with
  | nil => rfl
  | cons a rest =>
    simp only [List.any_cons, Bool.or_eq_false_iff] at h
    simp [modsHit, h.1, h.2]

theorem mem_dedupTags {l : List Str} {x : Str} : x ∈ dedupTags l ↔ x ∈ l :=
  (List.mem_foldl_addIfNew l []).trans (by simp)

theorem mem_resolveTags_dedup {lower : Str → Str} {dyn : Str → List Str} {tags : List Str} {x : Str} :
    x ∈ resolveTags lower dyn (dedupTags tags) ↔ x ∈ resolveTags lower dyn tags := by
  simp only [resolveTags, List.mem_flatMap, mem_dedupTags]

theorem mem_resolveTags_static {lower : Str → Str} {tags : List Str} {x : Str}
    (hs : tags.all (fun t => !isDynamic (strip t)) = true) (dyn dyn' : Str → List Str) :
    x ∈ resolveTags lower dyn tags ↔ x ∈ resolveTags lower dyn' tags := by
  simp only [resolveTags, List.mem_flatMap]
  refine exists_congr fun t => and_congr_right fun ht => ?_
  simp only [show isDynamic (strip t) = false by simpa using List.all_eq_true.mp hs t ht, Bool.false_eq_true, if_false]

theorem per_rule_tags (o : Oracles) (fixA fixB : Bool) (eps : NumLit) (eps' : Int) (c : CsvRule) (t : Txn)
    (hs : c.tags.all (fun x => !isDynamic (strip x)) = true) (tag : String) :
    tag ∈ (engineEval o fixA fixB eps c t).tags ↔ tag ∈ (legacyEval o eps' c t).tags := by
  simp only [engineEval, legacyEval, List.mem_map, mem_resolveTags_dedup, mem_resolveTags_static hs o.dynEngine o.dynLegacy]

theorem strip_of_trimmed {l : Str} (h : trimmed l = true) : strip l = l := by
  simp only [trimmed, Bool.and_eq_true] at h
  exact strip_eq_self (fun c hc => by simpa [hc] using h.1) (fun c hc => by simpa [hc] using h.2)

/-- what one generated section parses to: like `toRule`, with the tag set as `MerchantEngine.parse`
computes it from the `tags:` line -/
def toRuleP (fixA fixB : Bool) (eps : NumLit) (c : CsvRule) : Rule :=
  { name := c.merchant, merchant := c.merchant, category := c.category, subcategory := c.subcategory,
    tags := if c.tags.isEmpty then [] else splitTags (joinComma c.tags), priority := 50,
    matchExpr := matchText fixA fixB eps c, lets := [], fields := [] }

/-- per-tuple hypotheses of the structure theorem (all decidable) -/
structure RowGood (ve : Str → Bool) (fixA fixB : Bool) (eps : NumLit) (c : CsvRule) : Prop where
  merchant : trimmed c.merchant = true
  merchantNe : c.merchant ≠ []
  category : trimmed c.category = true
  subcategory : trimmed c.subcategory = true
  matchT : trimmed (matchText fixA fixB eps c) = true
  tagsT : trimmed (joinComma c.tags) = true
  valid : ve (matchText fixA fixB eps c) = true
  catOrTags : c.category ≠ [] ∨ (c.tags ≠ [] ∧ splitTags (joinComma c.tags) ≠ [])

theorem ruleLines_eq_blockLines (fixA fixB : Bool) (eps : NumLit) (c : CsvRule) :
    ruleLines fixA fixB eps c = blockLines c.merchant (matchText fixA fixB eps c) c.category c.subcategory
      (if c.tags.isEmpty then none else some (joinComma c.tags)) ++ [[]] := by
  unfold ruleLines blockLines
  -- a literal is `String.ofList` of its characters: they are read off (the kernel decodes `toList` of a literal slowly)
  rw [show "match: ".toList = _ from String.toList_ofList, show "category: ".toList = _ from String.toList_ofList,
    show "subcategory: ".toList = _ from String.toList_ofList, show "tags: ".toList = _ from String.toList_ofList]
  split <;> rfl

/-- the section of a good row leaves a `current_rule` dict that `_add_rule` turns into `toRuleP c` -/
theorem run_ruleLines (ve : Str → Bool) (fixA fixB : Bool) (eps : NumLit) (c : CsvRule) (g : RowGood ve fixA fixB eps c)
    (n : Nat) (st st1 : MState) (hclose : closeCur ve st = .ok st1) :
    ∃ d, run ve n st (ruleLines fixA fixB eps c) = .ok { st1 with cur := some d, startLine := n } ∧
      addRule ve d = .ok (toRuleP fixA fixB eps c) := by
  have hne : (strip c.merchant).isEmpty = false := by
    rw [strip_of_trimmed g.merchant]; simpa using g.merchantNe
  rw [ruleLines_eq_blockLines, run_append, run_block n hne hclose]
  refine ⟨_, rfl, ?_⟩
  simp only [strip_of_trimmed g.merchant, strip_of_trimmed g.matchT, strip_of_trimmed g.category,
    strip_of_trimmed g.subcategory]
  unfold addRule toRuleP
  by_cases ht : c.tags.isEmpty = true
  · have hc := g.catOrTags.resolve_right (by simp [List.isEmpty_iff.mp ht])
    simp [ht, hasCategory, hc, allValid, g.valid, mkRule]
  · have hct : (c.category.isEmpty && (splitTags (joinComma c.tags)).isEmpty) = false := by
      rcases g.catOrTags with h | ⟨-, h⟩ <;> simp [h]
    simp [ht, strip_of_trimmed g.tagsT, hasCategory, hasTags, hct, allValid, g.valid, mkRule]

theorem finish_run_ruleLines (ve : Str → Bool) (fixA fixB : Bool) (eps : NumLit) (cs : List CsvRule)
    (hg : ∀ c ∈ cs, RowGood ve fixA fixB eps c) (n : Nat) (st st1 : MState) (hclose : closeCur ve st = .ok st1) :
    (match run ve n st (cs.flatMap (ruleLines fixA fixB eps)) with
      | .ok s => finish ve s
      | .error e => .error e) =
      .ok { rules := st1.rules ++ cs.map (toRuleP fixA fixB eps), variables := st1.variables, transforms := st1.transforms } := by
  induction cs generalizing n st st1 with
  | nil => simp [run, finish, hclose]
  | cons c cs ih =>
    obtain ⟨d, hrun, hadd⟩ := run_ruleLines ve fixA fixB eps c (hg c (by simp)) n st st1 hclose
    rw [List.flatMap_cons, run_append, hrun]
    simp only
    -- the next header (or `finish`) closes the section left open: `toRuleP c` joins the rules
    rw [ih (fun x hx => hg x (by simp [hx])) _ _ _ (by simp only [closeCur, hadd]; rfl)]
    simp

theorem headerLines_skip : ∀ l ∈ headerLines, isSkip (strip l) = true := by
  -- every header line is `#…` or empty; the first character of each literal is read off
  have h : ∀ r, isSkip (strip (String.ofList ('#' :: r)).toList) = true := fun r => by
    rw [String.toList_ofList]; exact isSkip_strip_hash r
  simp only [headerLines, List.forall_mem_cons]
  exact ⟨h _, h _, h _, h _, h _, h _, h _, h _, h _, rfl, nofun⟩

theorem header_run (ve : Str → Bool) : run ve 1 {} headerLines = .ok {} := run_skip ve {} _ headerLines_skip 1

/-- the header of the generated file is inert; 11 = 1 + its ten lines -/
theorem parseRulesFile_render (ve : Str → Bool) (fixA fixB : Bool) (eps : NumLit) (cs : List CsvRule) :
    Impl.parseRulesFile ve (render fixA fixB eps cs) =
      match run ve 11 {} (cs.flatMap (ruleLines fixA fixB eps)) with
      | .ok st => finish ve st
      | .error e => .error e := by
  rw [Impl.parseRulesFile, render, run_append, header_run]
  rfl

end TallyVerif.Migrate
