import TallyVerif.Lemmas.FsMigration
import TallyVerif.Lemmas.FsFault
/-!
C15 for `tally up --migrate` on an ARBITRARY tree (`up_crash_safe`, `up_fault_safe`): where it does not migrate it performs no
event; where it does, no content is lost in any crash state (`UpReady.preserves`: `InitKeeps` again, after the backup of an
existing merchants.rules if there is one), and the budget classifies as it did (`migration_mid`, `Mid.equiv` of
`Lemmas/FsMigration.lean`).  A fault leaves a crash state
(`up_fault_cases`); what the faulted run itself goes on to classify with is what `upRunCheck` evaluates.
-/
namespace TallyVerif.Fs
variable {κ : Type}

variable [DecidableEq κ]

/-- what `up_crash_safe` asks of a budget -/
structure UpReady (v : Variants) (fs₀ : FS κ) : Prop where
  once : Once fs₀
  /-- where `up --migrate` migrates, `merchants.rules.tmp` and a backup name for the CSV are free, and merchants.rules is not there
      or is backed up, to a name that is free -/
  free : ∀ loc, upMigrates fs₀ = some loc → lookup fs₀ ⟨loc, .rulesTmp⟩ = none ∧
    BackupFree v.csv loc fs₀ ∧
    (lookup fs₀ ⟨loc, .rules⟩ = none ∨ v.csv.fresh = true ∧ ∃ b ∈ rulesBackups, lookup fs₀ ⟨loc, b⟩ = none)
  /-- the migration renames the new file into place before it writes the key, moves the CSV away last, and looks for the key itself -/
  order : v.csv.reorder = true ∧ v.csv.keyCheck = true
  /-- the legacy CSV is one piece of user content (of which `migratedChunk` is the conversion) -/
  single : ∀ loc c, fileAt fs₀ ⟨loc, .csv⟩ = some c → ∃ a m, c = [.orig a m]

variable {v : Variants} {fs₀ : FS κ}

/-- no content is lost in any crash state of the CSV migration of `tally up --migrate` -/
theorem UpReady.preserves (R : UpReady v fs₀) {loc : Loc} (hm : upMigrates fs₀ = some loc) :
    Ends (fun y => preserved fs₀ y = true) (migrateCsvBody v.csv loc) fs₀ (fun y => preserved fs₀ y = true) := by
  obtain ⟨-, -, c, -, -, hc⟩ := upMigrates_reads hm
  obtain ⟨ht, ⟨b, hb, hbf⟩, hrules⟩ := R.free loc hm
  have plain : lookup fs₀ ⟨loc, .rules⟩ = none → _ := fun hr =>
    (migration_keeps v.csv hc hr ht ⟨b, hb, hbf⟩).imp fun _ => preserved_of_keeps R.once
  rcases hrules with hr | ⟨hv, hbak⟩
  · exact plain hr
  · cases hr : lookup fs₀ ⟨loc, .rules⟩ with
    | none => exact plain hr
    | some n =>
      -- merchants.rules is moved to a free backup name first: the migration goes on from that tree, which has every content
      have hfree : lookup fs₀ ⟨loc, rulesBackupName fs₀ loc⟩ = none := firstFree_free hbak
      have hbk := rulesBackupName_mem fs₀ loc
      have other : ∀ r, r ∉ rulesBackups → r ≠ .rules →
          lookup (setNode (remove fs₀ ⟨loc, .rules⟩) ⟨loc, rulesBackupName fs₀ loc⟩ n) ⟨loc, r⟩ = lookup fs₀ ⟨loc, r⟩ :=
        fun r h1 h2 => by rw [lookup_moved, if_neg (path_ne_of_rel hbk h1).symm, if_neg (by simpa using h2)]
      have back : ∀ y, InitKeeps loc (setNode (remove fs₀ ⟨loc, .rules⟩) ⟨loc, rulesBackupName fs₀ loc⟩ n) y → preserved fs₀ y = true :=
        fun y h => preserved_moved R.once hr hfree
          ⟨nofun, fun e => absurd (show Rel.settings ∈ rulesBackups from e ▸ hbk) (by decide)⟩
          (preserved_of_keeps R.once.moved h)
      have hb' : b ∈ csvBackups := by rw [hv] at hb; exact hb
      refine Ends.migrateCsvBody_backup v.csv hv hr (back _ ⟨_, .inl rfl, .refl⟩)
        ((migration_keeps v.csv (c := c) ?_ ?_ ?_ ⟨b, hb, ?_⟩).imp back)
      · rw [fileAt, other _ (by decide) (by decide)]; exact hc
      · rw [lookup_moved, if_neg (path_ne_of_rel hbk (by decide)).symm, if_pos rfl]
      · rw [other _ (by decide) (by decide)]; exact ht
      · rw [other _ ((by decide : ∀ b ∈ csvBackups, b ∉ rulesBackups) b hb') ((by decide : ∀ b ∈ csvBackups, b ≠ .rules) b hb')]
        exact hbf

omit [DecidableEq κ] in
/-- a budget shape is `UpReady` for the reordered migration that looks for free backup names (a shape has no `.bak.1`, and no backup
    of merchants.rules) -/
theorem Shape.upReady (s : Shape) (u : Rel → κ) (hv : v.csv.fresh = true) (ho : v.csv.reorder = true ∧ v.csv.keyCheck = true) :
    UpReady v (s.fs u) where
  once := s.fsWith_false u ▸ s.once false u
  free loc _ := s.fsWith_false u ▸
    ⟨s.absent false u (by cases loc <;> cases s.csvBak <;> decide), s.backupFree false u (.inl hv),
     .inr ⟨hv, .rulesBak, by decide, s.absent false u (by cases loc <;> cases s.csvBak <;> decide)⟩⟩
  order := ho
  single := s.csv_single u

/-- C15 for `tally up --migrate`, interruption clause, on any tree that is `UpReady` -/
theorem up_crash_safe (R : UpReady v fs₀) (k : Nat) (part : Partial) : Safe v .upMigrate fs₀ (crashAt v .upMigrate fs₀ k part) := by
  cases hm : upMigrates fs₀ with
  | none => rw [crashAt_of_no_event (complete_up_of_not_migrates v hm)]; exact safe_self ..
  | some loc =>
    obtain ⟨hd, sc, c₀, hs, hk, hc⟩ := upMigrates_reads hm
    -- the budget classifies as it did, the CSV being in effect till the key is written
    have classifies : ∀ y, Mid loc fs₀ sc c₀ y → classifiesB v .upMigrate fs₀ y = true := fun y h =>
      classifiesB_of_equiv v _ (h.equiv hd hs hc (fun r e => by rw [hk] at e; cases e) (fun _ => R.single loc c₀ hc))
    exact Ends.crashAt (complete_up_of_migrates v hm)
      (((R.preserves hm).and ((migration_mid v.csv R.order.1 R.order.2 hs hc).imp classifies)).imp fun _ => safe_iff.mpr).tryLast
      (safe_self ..) k part

/-- C15 for `tally up --migrate`, I/O-error clause: the tree a fault leaves is a crash state, and what the faulted run goes on to
    classify with passes the check -/
theorem up_fault_safe (hc : ∀ k part, Safe v .upMigrate fs₀ (crashAt v .upMigrate fs₀ k part)) (hr : upRunCheck v fs₀ = true) (k : Nat) :
    SafeRun v .upMigrate fs₀ (faultAt v .upMigrate fs₀ k) := by
  obtain ⟨h1, h2⟩ := Bool.and_eq_true_iff.mp hr
  rcases up_fault_cases v fs₀ k with h | ⟨loc, hm, hk, h⟩
  · rw [h]; exact ⟨hc _ _, fun _ => h1⟩
  · rw [h]
    rw [hm] at h2
    exact ⟨hc _ _, fun _ => List.all_eq_true.mp h2 k (List.mem_range.mpr hk)⟩

end TallyVerif.Fs
