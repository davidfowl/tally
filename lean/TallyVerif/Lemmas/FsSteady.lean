import TallyVerif.Lemmas.FsKeeps
/-!
From the invariants of `FsKeeps.lean` to the clauses of `Safe` (C15).  What `init_config` and the views append of `tally init` cannot
disturb: a tree that classifies as the user's budget did, with rules, keeps doing so whatever is created at free names of `initRels`
and whatever inert chunks settings.yaml gains (`classifiesB_of_steady`).  A tree of which `InitKeeps` holds has lost no content
(`preserved_of_keeps`), nor has one in which a node was moved to a free name (`preserved_moved`); a tree is safe against itself
(`safe_self`).
-/
namespace TallyVerif.Fs
variable {κ : Type}

theorem keyMF_append (c t : Content κ) : keyMF (c ++ t) = (keyMF c).or (keyMF t) := by
  simp only [keyMF, List.findSome?_append]

theorem hasSources_append {c t : Content κ} (ht : ∀ ch ∈ t, ∀ a m, ch ≠ .orig a m) : hasSources (c ++ t) = hasSources c := by
  unfold hasSources
  rw [List.any_append, Bool.or_eq_left_iff_imp]
  intro h
  obtain ⟨ch, hch, hs⟩ := List.any_eq_true.mp h
  cases ch <;> first | cases hs | exact absurd rfl (ht _ hch _ _)

theorem loadable_append {c : Content κ} (t : Content κ) (h : loadable c = true) : loadable (c ++ t) = true := by
  cases c with
  | nil => cases h
  | cons x r => cases x <;> first | rfl | cases h

/-- a chunk that changes nothing of what `load_config` reads out of a settings.yaml it is appended to -/
def Chunk.Inert (ch : Chunk κ) : Prop := ch.keyMF = none ∧ ∀ a m, ch ≠ .orig a m

theorem keyMF_append_inert {c t : Content κ} (ht : ∀ ch ∈ t, ch.Inert) : keyMF (c ++ t) = keyMF c := by
  rw [keyMF_append, show keyMF t = none from List.findSome?_eq_none_iff.mpr fun ch h => (ht ch h).1, Option.or_none]

/-- what `load_config` reads in the budget directory `loc`: whether `config` is a directory; of settings.yaml whether it loads, its
    key and whether it lists sources; the file the key names, or the legacy CSV if there is no key; the statement file -/
theorem effective_congr {fs y : FS κ} {loc : Loc} {sc sc' : Content κ} (hd : findConfigDir fs = some loc) (hdy : findConfigDir y = some loc)
    (hdir : isDir y ⟨loc, .configDir⟩ = isDir fs ⟨loc, .configDir⟩)
    (hs : fileAt fs ⟨loc, .settings⟩ = some sc) (hy : fileAt y ⟨loc, .settings⟩ = some sc')
    (hl : loadable sc' = loadable sc) (hk : keyMF sc' = keyMF sc) (hsrc : hasSources sc' = hasSources sc)
    (hfile : fileAt y ⟨loc, (keyMF sc).getD .csv⟩ = fileAt fs ⟨loc, (keyMF sc).getD .csv⟩)
    (hstmt : fileAt y ⟨loc, .stmt⟩ = fileAt fs ⟨loc, .stmt⟩) : effective y = effective fs := by
  simp only [effective, hd, hdy, hs, hy, effectiveRules, hdir, hl, hk, hsrc, hstmt]
  cases hkm : keyMF sc <;> simp only [hkm, Option.getD_some, Option.getD_none] at hfile <;> simp only [hfile]

/-- a budget that classifies with rules has `config`, a settings.yaml that loads, and the file that holds the rules -/
theorem usable_reads {fs : FS κ} {loc : Loc} (hd : findConfigDir fs = some loc) (hu : (effective fs).rules.usable = true) :
    isDir fs ⟨loc, .configDir⟩ = true ∧ ∃ sc c, fileAt fs ⟨loc, .settings⟩ = some sc ∧ loadable sc = true ∧
      fileAt fs ⟨loc, (keyMF sc).getD .csv⟩ = some c := by
  rw [effective_rules hd] at hu
  revert hu
  fun_cases effectiveRules loc fs <;> simp_all [RuleSrc.usable]

/-- `load_config` in `./config` reads the same out of `y` as out of `ref` when `ref` classifies with rules: what it reads is there in
    `ref`, so it is not a free name; settings.yaml has the same key, sources and loadability; and it is not itself the rules file -/
theorem effective_of_grows {ref y : FS κ} (hd : isDir ref ⟨.top, .configDir⟩ = true) (hu : (effective ref).rules.usable = true)
    (hk : ∀ sc, fileAt ref ⟨.top, .settings⟩ = some sc → keyMF sc ≠ some .settings) (g : InitGrows Chunk.Inert .top ref y) :
    effective y = effective ref := by
  have same : ∀ {q : Path} {n}, lookup ref q = some n → q ≠ ⟨.top, .settings⟩ → lookup y q = some n :=
    fun hn hq => (g.same (fun hF => by rw [hF.1] at hn; cases hn) hq).trans hn
  have hfd : findConfigDir ref = some .top := by simp [findConfigDir, hd]
  obtain ⟨-, sc, c, hs, hload, hfile⟩ := usable_reads hfd hu
  have hd' : isDir y ⟨.top, .configDir⟩ = true := by
    unfold isDir at hd ⊢
    split at hd
    · rw [same ‹_› (by simp)]
    · cases hd
  have hls := lookup_of_fileAt hs
  obtain ⟨t, hy, ht⟩ := g.appended (fun f => by rw [f.1] at hls; cases hls) hs
  refine effective_congr hfd (by simp [findConfigDir, hd']) (hd'.trans hd.symm) hs hy ((loadable_append t hload).trans hload.symm)
    (keyMF_append_inert ht) (hasSources_append fun ch h => (ht ch h).2) ?_
    (fileAt_congr (g.same (fun hF => absurd hF.2 (by decide)) (by simp)))
  -- the file that holds the rules is there in `ref`, and is not settings.yaml
  have hne : (⟨.top, (keyMF sc).getD .csv⟩ : Path) ≠ ⟨.top, .settings⟩ := by
    cases hkm : keyMF sc with
    | none => simp
    | some r => simpa using fun (e : r = .settings) => hk sc hs (e ▸ hkm)
  exact (fileAt_congr ((same (lookup_of_fileAt hfile) hne).trans (lookup_of_fileAt hfile).symm))

theorem RuleSrc.isEmpty_of_usable {r : RuleSrc κ} (h : r.usable = true) : r.isEmpty = false := by
  cases r <;> simp_all [RuleSrc.usable, RuleSrc.isEmpty]

section Safe
variable [DecidableEq κ]

theorem Eff.equiv_refl (e : Eff κ) : e.equiv e = true := by simp [Eff.equiv, RuleSrc.equiv]

/-- a tree that classifies as `fs₀` did, now and with rules, passes the clauses of `safeB` after `preserved` -/
theorem classifiesB_of_equiv (v : Variants) (p : Prog) {fs₀ y : FS κ}
    (h : (effective fs₀).rules.usable = true → (effective fs₀).equiv (effective y) = true ∧ (effective y).rules.usable = true) :
    classifiesB v p fs₀ y = true := by
  unfold classifiesB
  cases hu : (effective fs₀).rules.usable with
  | false => rfl
  | true =>
    obtain ⟨he, hr⟩ := h hu
    rw [stranded, he, RuleSrc.isEmpty_of_usable hr]
    rfl

/-- `y` classifies as `fs₀` did, with rules, through `./config`, and its settings.yaml does not name itself as the rules file: what
    `init_config` and the views append of `tally init` leave as it is (if `fs₀` did not classify with the user's rules, `safeB` asks
    no more than `preserved`) -/
def Steady (fs₀ y : FS κ) : Prop :=
  (effective fs₀).rules.usable = true → (effective fs₀).equiv (effective y) = true ∧ (effective y).rules.usable = true ∧
    isDir y ⟨.top, .configDir⟩ = true ∧ ∀ sc, fileAt y ⟨.top, .settings⟩ = some sc → keyMF sc ≠ some .settings

theorem classifiesB_of_steady (v : Variants) (p : Prog) {fs₀ ref y : FS κ} (h : Steady fs₀ ref)
    (g : InitGrows Chunk.Inert .top ref y) : classifiesB v p fs₀ y = true :=
  classifiesB_of_equiv v p fun hu =>
    let ⟨he, hr, hd, hk⟩ := h hu
    by rw [effective_of_grows hd hr hk g]; exact ⟨he, hr⟩

theorem preserved_self (fs : FS κ) : preserved fs fs = true := List.all_eq_true.mpr fun e he => by
  cases h : e.2 with
  | dir => rfl
  | file c => exact List.any_eq_true.mpr ⟨e, he, by simp [h]⟩

/-- a tree is safe against itself: where a command does nothing, C15 asks nothing -/
theorem safe_self (v : Variants) (p : Prog) (fs : FS κ) : Safe v p fs fs :=
  safe_iff.mpr ⟨preserved_self fs, classifiesB_of_equiv v p fun hu => ⟨Eff.equiv_refl _, hu⟩⟩

theorem preserved_of_keeps {loc : Loc} {fs₀ y : FS κ} (hk : Once fs₀) (h : InitKeeps loc fs₀ y) :
    preserved fs₀ y = true := by
  refine List.all_eq_true.mpr fun ⟨q, n⟩ he => ?_
  cases n with
  | dir => rfl
  | file c =>
    dsimp only
    rcases h.node (hk _ he) with e | ⟨rfl, c', t, hc, e⟩ | ⟨-, b, c', -, hc, -, -, e⟩
    · exact List.any_eq_true.mpr ⟨_, mem_of_lookup e, by simp⟩
    · cases hc
      exact List.any_eq_true.mpr ⟨_, mem_of_lookup e, by simp⟩
    · cases hc
      exact List.any_eq_true.mpr ⟨_, mem_of_lookup e, by simp⟩

/-- moving a node to a free name loses no content, so what has every content of the new tree has every content of the old one -/
theorem preserved_moved {x y : FS κ} {a b : Path} {n : Node κ} (hx : Once x) (ha : lookup x a = some n)
    (hb : lookup x b = none) (hs : a.rel ≠ .settings ∧ b.rel ≠ .settings) (h : preserved (setNode (remove x a) b n) y = true) :
    preserved x y = true := by
  refine List.all_eq_true.mpr fun e he => ?_
  by_cases hea : e.1 = a
  · -- the node that was moved: its content is asked for under the new name, and neither name is settings.yaml
    obtain rfl : e.2 = n := Option.some.inj ((hx e he).symm.trans (hea ▸ ha))
    have := List.all_eq_true.mp h (b, e.2) (.head _)
    cases hn : e.2 with
    | dir => rfl
    | file c => simpa [hn, hea, hs.1, hs.2] using this
  · exact List.all_eq_true.mp h e (.tail _ (mem_remove.mpr ⟨mem_remove.mpr ⟨he, hea⟩, fun h => by rw [← h, hx e he] at hb; cases hb⟩))

end Safe

end TallyVerif.Fs
