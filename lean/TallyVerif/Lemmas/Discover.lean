import TallyVerif.Model.Discover
import TallyVerif.Lemmas.RulesBlock
/-! Lemmas for C19, in this order.  The cleaning pipeline only cuts at the ends, so what it keeps is a contiguous
piece of the upper-cased description (`InfWs`), which `contains` finds when `upper` is idempotent.  `split()` is
followed along its scanner `splitGo`, whose state has a closed form (`splitGo_eq`, `splitGo_append`), whose words,
put together, are the non-space characters (`splitWs_flatten`), and which commutes with the regex escaping
(`splitWs_flatMap`).  A text starts with its own first words separated by white space (`langAt_words`): the match
of the repaired suggestion.  The string-literal reader undoes the two escapings piece by piece (`Dec`).  The rule
text is a block of `Lemmas/RulesBlock`. -/

namespace TallyVerif.Discover
open TallyVerif.RulesFile

/-- `x` is a contiguous piece `p` of `U` followed by white space `t` -/
def InfWs (x U : Str) : Prop := ∃ p t, x = p ++ t ∧ p <:+: U ∧ t.all isSpace = true

theorem InfWs.refl (U : Str) : InfWs U U := ⟨U, [], (List.append_nil U).symm, List.infix_rfl, rfl⟩

theorem InfWs.take_append {x U : Str} (h : InfWs x U) (n : Nat) {tl : Str} (htl : tl.all isSpace = true) :
    InfWs (x.take n ++ tl) U := by
  obtain ⟨p, t, rfl, hp, ht⟩ := h
  exact ⟨p.take n, t.take (n - p.length) ++ tl, by simp [List.take_append],
    (List.take_prefix _ _).isInfix.trans hp, by simp [List.all_of_sublist (List.take_sublist _ _) ht, htl]⟩

theorem InfWs.drop {x U : Str} (h : InfWs x U) (n : Nat) : InfWs (x.drop n) U := by
  obtain ⟨p, t, rfl, hp, ht⟩ := h
  exact ⟨p.drop n, t.drop (n - p.length), by simp [List.drop_append],
    (List.drop_suffix _ _).isInfix.trans hp, List.all_of_sublist (List.drop_sublist _ _) ht⟩

theorem InfWs.strip {x U : Str} (h : InfWs x U) : strip x <:+: U := by
  obtain ⟨p, t, rfl, hp, ht⟩ := h
  rw [strip_append_right _ _ ht]
  exact (strip_infix p).trans hp

theorem InfWs.dropPrefixes {x U : Str} (h : InfWs x U) (ps : List Str) : InfWs (dropPrefixes ps x) U := by
  unfold Discover.dropPrefixes
  fun_induction List.foldl _ x ps with
  | case1 => exact h
  | case2 x p ps ih =>
    apply ih
    split
    · exact h.drop _
    · exact h

/-- what the tail rule `P` leaves of the text it matches is white space (nothing, or the final newline) -/
def WsTail (P : Str → Option Str) : Prop := ∀ s tl, P s = some tl → tl.all isSpace = true

theorem cutAt_take {P : Str → Option Str} (hP : WsTail P) (x : Str) :
    ∃ n tl, cutAt P x = x.take n ++ tl ∧ tl.all isSpace = true := by
  fun_induction cutAt P x with
  | case1 => exact ⟨0, [], rfl, rfl⟩
  | case2 c cs tl h => exact ⟨0, tl, rfl, hP _ _ h⟩  -- `P` matches here
  | case3 c cs h ih =>  -- no match here: the first character is kept
    obtain ⟨n, tl, h1, h2⟩ := ih
    exact ⟨n + 1, tl, by rw [h1]; rfl, h2⟩

theorem InfWs.cutAt {x U : Str} (h : InfWs x U) {P : Str → Option Str} (hP : WsTail P) : InfWs (cutAt P x) U := by
  obtain ⟨n, tl, h1, h2⟩ := cutAt_take hP x
  rw [h1]; exact h.take_append n h2

theorem ite_ws {b : Prop} [Decidable b] {x : Option Str} {tl : Str} (hx : x = some tl → tl.all isSpace = true)
    (h : (if b then x else none) = some tl) : tl.all isSpace = true := by
  split at h
  · exact hx h
  · cases h

/-- in the shape `ite_ws` asks for -/
theorem tailNL_ws {s tl : Str} (h : some (tailNL s) = some tl) : tl.all isSpace = true := by
  cases h
  fun_cases tailNL s <;> decide

theorem atEnd_ws {r tl : Str} (h : atEnd r = some tl) : tl.all isSpace = true := by
  unfold atEnd at h
  split at h <;> cases h <;> decide

/-- all the tail rules have the form `\s+…`; what they leave is decided by the part after the white space -/
theorem afterWs_ws {k : Str → Option Str} (hk : WsTail k) : WsTail (afterWs · k) := fun s tl => by
  show afterWs s k = some tl → _
  fun_cases afterWs s k
  · exact hk _ _
  · exact nofun
  · exact nofun

theorem numP_ws (o : Oracles) : WsTail (numP o) :=
  afterWs_ws fun _ _ => ite_ws tailNL_ws

theorem stateP_ws (o : Oracles) (ci : Bool) : WsTail (stateP o ci) :=
  afterWs_ws fun _ _ => ite_ws atEnd_ws

theorem zipP_ws (o : Oracles) : WsTail (zipP o) :=
  afterWs_ws fun _ _ => ite_ws atEnd_ws

theorem storeCutP_ws (o : Oracles) : WsTail (storeCutP o) :=
  afterWs_ws fun r tl h => by
    split at h
    · exact ite_ws tailNL_ws h
    · cases h

theorem preStoreU_infws (o : Oracles) (U : Str) : InfWs (preStoreU o U) U :=
  (((InfWs.refl _).cutAt (numP_ws o)).cutAt (stateP_ws o false)).cutAt (zipP_ws o)

theorem Fixed.cleanU_infix (o : Oracles) (U : Str) : Fixed.cleanU o U <:+: U :=
  (((preStoreU_infws o U).cutAt (storeCutP_ws o)).dropPrefixes patPrefixes).strip

/-- `clean` deletes store numbers wherever they stand; `h`: here that removes at most a tail -/
theorem clean_infix (o : Oracles) (d : Str)
    (h : (delStore o 0 (preStore o d)).isPrefixOf (preStore o d) = true) : clean o d <:+: upper o d := by
  have ht := List.prefix_iff_eq_take.mp (List.isPrefixOf_iff_prefix.mp h)
  have hdel : InfWs (delStore o 0 (preStore o d)) (upper o d) := by
    rw [ht]; simpa using InfWs.take_append (x := preStore o d) (preStoreU_infws o _) _ (tl := []) rfl
  exact (hdel.dropPrefixes patPrefixes).strip

theorem isInfixB_of_prefix {p t : Str} (h : p.isPrefixOf t = true) : isInfixB p t = true := by
  fun_cases isInfixB p t
  · cases p with
    | nil => rfl
    | cons _ _ => cases h
  · simp [h]

theorem isInfixB_of_infix {p t : Str} (h : p <:+: t) : isInfixB p t = true := by
  obtain ⟨a, b, rfl⟩ := h
  induction a with
  | nil => exact isInfixB_of_prefix (List.isPrefixOf_iff_prefix.mpr ⟨b, rfl⟩)
  | cons c cs ih => simp only [List.cons_append, isInfixB, ih, Bool.or_true]

/-- `str.upper()` is idempotent on every non-ASCII character (a law of the oracle, tested on every run) -/
def UpperIdem (o : Oracles) : Prop := ∀ c, isAscii c = false → (o.upNA c).flatMap (upperC o) = o.upNA c

theorem upChar_ascii_idem : ∀ n : Fin 128, isAscii (upChar (Char.ofNat n)) = true ∧
    upChar (upChar (Char.ofNat n)) = upChar (Char.ofNat n) := by decide +kernel

theorem upperC_idem (o : Oracles) (h : UpperIdem o) (c : Char) : (upperC o c).flatMap (upperC o) = upperC o c := by
  cases hc : isAscii c
  · simpa [upperC, hc] using h c hc
  · have := upChar_ascii_idem ⟨c.toNat, by simpa [isAscii] using hc⟩
    simp only [Char.ofNat_toNat] at this
    simp [upperC, hc, this.1, this.2]

theorem upper_idem (o : Oracles) (h : UpperIdem o) (s : Str) : upper o (upper o s) = upper o s := by
  simp [upper, List.flatMap_assoc, upperC_idem o h]

theorem upper_infix (o : Oracles) {a b : Str} (h : a <:+: b) : upper o a <:+: upper o b := by
  obtain ⟨x, y, rfl⟩ := h
  simp [upper]

theorem containsCI_of_infix (o : Oracles) (h : UpperIdem o) {c d : Str} (hc : c <:+: upper o d) :
    containsCI o c d = true := by
  have := upper_infix o hc
  rw [upper_idem o h] at this
  exact isInfixB_of_infix this

theorem upperIdem_ascii : UpperIdem asciiOracles := by
  intro c hc; simp [asciiOracles, upperC, hc]

theorem consNE_nil (l : List Str) : consNE [] l = l := rfl

theorem consNE_map (f : Str → Str) (hf : ∀ w, (f w).isEmpty = w.isEmpty) (w : Str) (ws : List Str) :
    (consNE w ws).map f = consNE (f w) (ws.map f) := by
  unfold consNE
  rw [hf w]; split <;> simp

theorem consNE_flatten (w : Str) (ws : List Str) : (consNE w ws).flatten = w ++ ws.flatten := by
  cases w <;> rfl

theorem splitGo_eq (s : Str) :
    splitGo s = (s.takeWhile (!isSpace ·), splitWs (s.dropWhile (!isSpace ·))) := by
  fun_induction splitGo s with
  | case1 => rfl
  | case2 c cs hc ih => simp [splitWs, splitGo, hc, consNE_nil]
  | case3 c cs hc ih => simp [hc, ih]

theorem splitWs_cons_space {c : Char} (cs : Str) (h : isSpace c = true) : splitWs (c :: cs) = splitWs cs := by
  simp [splitWs, splitGo, h, consNE_nil]

theorem splitWs_cons_word {c : Char} (cs : Str) (h : isSpace c = false) :
    splitWs (c :: cs) = (c :: cs.takeWhile (!isSpace ·)) :: splitWs (cs.dropWhile (!isSpace ·)) := by
  simp [splitWs, splitGo, h, consNE, splitGo_eq cs]

theorem splitGo_append {a : Str} (ha : ∀ x ∈ a, isSpace x = false) (r : Str) :
    splitGo (a ++ r) = (a ++ (splitGo r).1, (splitGo r).2) := by
  have ha : ∀ x ∈ a, (!isSpace x) = true := fun x hx => by rw [ha x hx]; rfl
  rw [splitGo_eq, splitGo_eq r, List.takeWhile_append_of_pos ha, List.dropWhile_append_of_pos ha]

theorem splitWs_single {c : Str} (hne : c ≠ []) (hns : ∀ x ∈ c, isSpace x = false) : splitWs c = [c] := by
  have := splitGo_append hns []
  rw [List.append_nil] at this
  rw [splitWs, this]
  cases c with
  | nil => exact absurd rfl hne
  | cons x xs => simp [consNE, splitGo]

theorem splitGo_flatten (s : Str) : (splitGo s).1 ++ (splitGo s).2.flatten = s.filter (!isSpace ·) := by
  fun_induction splitGo s with
  | case1 => rfl
  | case2 c cs hc ih => simp [consNE_flatten, ih, hc]
  | case3 c cs hc ih => simp [ih, hc]

theorem splitWs_flatten (s : Str) : (splitWs s).flatten = s.filter (!isSpace ·) := by
  rw [splitWs, consNE_flatten, splitGo_flatten]

theorem mem_splitWs {s w : Str} (hw : w ∈ splitWs s) {c : Char} (hc : c ∈ w) : isSpace c = false ∧ c ∈ s := by
  have := List.mem_flatten_of_mem hw hc
  rw [splitWs_flatten, List.mem_filter] at this
  exact ⟨by simpa using this.2, this.1⟩

theorem splitWs_eq_nil {x : Str} (h : splitWs x = []) : x.all isSpace = true := by
  have := splitWs_flatten x
  rw [h] at this
  exact List.all_eq_true.mpr fun a ha => by simpa using List.filter_eq_nil_iff.mp this.symm a ha

/-! A rewriting of the text character by character that leaves white space alone and turns every other
character into a non-empty string without white space commutes with `split()`. -/
section flatMap
variable {f : Char → Str} (hs : ∀ c, isSpace c = true → f c = [c])
  (hn : ∀ c, isSpace c = false → f c ≠ [] ∧ ∀ a ∈ f c, isSpace a = false)
include hs hn

theorem isEmpty_flatMap (w : Str) : (w.flatMap f).isEmpty = w.isEmpty := by
  cases w with
  | nil => rfl
  | cons c cs =>
    cases hc : isSpace c
    · simp [(hn c hc).1]
    · simp [hs c hc]

theorem splitGo_flatMap (s : Str) :
    splitGo (s.flatMap f) = ((splitGo s).1.flatMap f, (splitGo s).2.map (·.flatMap f)) := by
  fun_induction splitGo s with
  | case1 => rfl
  | case2 c cs hc ih =>  -- white space: a word ends, on both sides
    rw [List.flatMap_cons, hs c hc, List.singleton_append, splitGo, if_pos hc, ih, consNE_map _ (isEmpty_flatMap hs hn)]
    rfl
  | case3 c cs hc ih =>  -- `c` goes into the word in progress, and so does all of `f c`
    rw [List.flatMap_cons, splitGo_append (hn c (by simpa using hc)).2, ih, List.flatMap_cons]

theorem splitWs_flatMap (s : Str) : splitWs (s.flatMap f) = (splitWs s).map (·.flatMap f) := by
  rw [splitWs, splitGo_flatMap hs hn, splitWs, consNE_map _ (isEmpty_flatMap hs hn)]

end flatMap

/-- a regex metacharacter is no white space and no quote, and after a backslash it starts no escape sequence of a
string literal -/
theorem meta_facts : ∀ c ∈ metaChars, isSpace c = false ∧ c ≠ '"' ∧ c ≠ '\'' ∧ c ∉ escLetters ∧ c ≠ '\r' := by
  decide +kernel

theorem escC_space {c : Char} (h : isSpace c = true) : escC c = [c] := by
  fun_cases escC c
  · next hm => rw [(meta_facts c (by simpa [isMeta] using hm)).1] at h; cases h
  · rfl

theorem escC_nospace {c : Char} (h : isSpace c = false) : escC c ≠ [] ∧ ∀ a ∈ escC c, isSpace a = false := by
  have hc : ∀ a ∈ [c], isSpace a = false := fun a ha => by rwa [List.mem_singleton.mp ha]
  fun_cases escC c
  · exact ⟨List.cons_ne_nil _ _, List.forall_mem_cons.mpr ⟨by decide, hc⟩⟩
  · exact ⟨List.cons_ne_nil _ _, hc⟩

theorem splitWs_escapeRe (x : Str) : splitWs (escapeRe x) = (splitWs x).map escapeRe :=
  splitWs_flatMap (fun _ => escC_space) (fun _ => escC_nospace) x

theorem langAt_cons {w : Str} {ws : List Str} {t : Str} (hw : w.isPrefixOf t = true)
    (h : Fixed.langAt ws ((t.drop w.length).dropWhile isSpace) = true) : Fixed.langAt (w :: ws) t = true := by
  cases ws with
  | nil => simpa [Fixed.langAt] using hw
  | cons w' ws => simp [Fixed.langAt, hw, h]

theorem langAt_words (rest : Str) : ∀ (c : Str) (n : Nat),
    Fixed.langAt ((splitWs c).take n) ((c ++ rest).dropWhile isSpace) = true
  | [], n => by rw [show splitWs [] = [] from rfl, List.take_nil]; rfl
  | x :: xs, n => by
    cases hx : isSpace x with
    | false =>  -- `x` starts the first word: the text is that word, then the rest
      cases n with
      | zero => rfl
      | succ m =>
        have e : (x :: xs ++ rest).dropWhile isSpace =
            (x :: xs.takeWhile (!isSpace ·)) ++ (xs.dropWhile (!isSpace ·) ++ rest) := by
          rw [List.cons_append, List.dropWhile_cons_of_neg (by simp [hx]), List.cons_append, ← List.append_assoc,
            List.takeWhile_append_dropWhile]
        rw [splitWs_cons_word xs hx, List.take_succ_cons, e]
        refine langAt_cons (List.isPrefixOf_iff_prefix.mpr (List.prefix_append _ _)) ?_
        rw [List.drop_left]
        exact langAt_words rest (xs.dropWhile (!isSpace ·)) m
    | true =>  -- leading white space is skipped by `split()` and by `dropWhile`
      rw [splitWs_cons_space xs hx, List.cons_append, List.dropWhile_cons_of_pos hx]
      exact langAt_words rest xs n
termination_by c => c.length
decreasing_by
  · exact Nat.lt_succ_of_le (List.dropWhile_sublist _).length_le
  · exact Nat.lt_succ_self _

theorem langSearch_of_suffix {words : List Str} {t U : Str} (hs : t <:+ U) (h : Fixed.langAt words t = true) :
    Fixed.langSearch words U = true := by
  obtain ⟨a, rfl⟩ := hs
  induction a with
  | nil => cases t <;> simp [Fixed.langSearch, h]
  | cons c cs ih => simp [Fixed.langSearch, ih]

theorem langSearch_of_infix (n : Nat) {c U : Str} (h : c <:+: U) :
    Fixed.langSearch ((splitWs c).take n) U = true := by
  obtain ⟨a, b, rfl⟩ := h
  refine langSearch_of_suffix ?_ (langAt_words b c n)
  rw [List.append_assoc]
  exact (List.dropWhile_suffix _).trans (List.suffix_append _ _)

def NoNul (x : Str) : Prop := ∀ c ∈ x, c.toNat ≠ 0

theorem patternOf_words {x : Str} (h : (splitWs x).take 3 ≠ []) :
    patternOf x = joinWith reWs (((splitWs x).take 3).map escapeRe) := by
  simp [patternOf, splitWs_escapeRe, ← List.map_take, h]

/-- what the loaded `contains("…")` literal holds for one word: metacharacters other than the backslash
keep the backslash that `suggest_pattern` put in front of them -/
def litC (c : Char) : Str := if isMeta c && c != '\\' then ['\\', c] else [c]
def litWord (w : Str) : Str := w.flatMap litC

theorem litWord_plain {w : Str} (h : ∀ c ∈ w, (isMeta c && c != '\\') = false) : litWord w = w := by
  induction w with
  | nil => rfl
  | cons c cs ih =>
    rw [litWord, List.flatMap_cons, ← litWord, ih fun x hx => h x (List.mem_cons_of_mem _ hx), litC,
      h c List.mem_cons_self]
    rfl

/-- the literal decoder reads `a` as `b`, whatever follows -/
def Dec (a b : Str) : Prop := ∀ rest, pyLit false (a ++ rest) = (pyLit false rest).map (b ++ ·)

theorem Dec.nil : Dec [] [] := fun rest => by simp

theorem Dec.append {a b a' b' : Str} (h : Dec a b) (h' : Dec a' b') : Dec (a ++ a') (b ++ b') := fun rest => by
  rw [List.append_assoc, h, h']; cases pyLit false rest <;> simp

theorem Dec.flatMap {enc dec : Char → Str} {w : Str} (h : ∀ c ∈ w, Dec (enc c) (dec c)) :
    Dec (w.flatMap enc) (w.flatMap dec) := by
  induction w with
  | nil => exact Dec.nil
  | cons c cs ih =>
    exact (h c List.mem_cons_self).append (ih fun x hx => h x (List.mem_cons_of_mem _ hx))

theorem Dec.eq_some {a b : Str} (h : Dec a b) : pyLit false a = some b := by simpa [pyLit] using h []

theorem Dec.plain {c : Char} (h1 : c ≠ '\\') (h2 : c ≠ '"') (h3 : c ≠ '\n') (h4 : c ≠ '\r') (h5 : c.toNat ≠ 0) :
    Dec [c] [c] := fun rest => by simp [pyLit, h1, h2, h3, h4, h5]

theorem Dec.unescape {c : Char} (h : c = '\\' ∨ c = '"' ∨ c = '\'') : Dec ['\\', c] [c] := fun rest => by
  rcases h with rfl | rfl | rfl <;> rfl

/-- a backslash before a character that starts no escape sequence is kept -/
theorem Dec.kept {c : Char} (h1 : c ≠ '\\') (h2 : c ≠ '"') (h3 : c ≠ '\'') (h4 : c ∉ escLetters) (h5 : c ≠ '\r')
    (h6 : c.toNat ≠ 0) : Dec ['\\', c] ['\\', c] := fun rest => by simp [pyLit, h1, h2, h3, h4, h5, h6]

/-- one character of a word, escaped for the regex and then for the string literal, is read back as `litC` -/
theorem dec_char {c : Char} (hs : isSpace c = false) (h0 : c.toNat ≠ 0) : Dec (quoteEsc (escC c)) (litC c) := by
  unfold escC litC
  cases hm : isMeta c with
  | false =>
    by_cases hq : c = '"'
    · subst hq; exact Dec.unescape (Or.inr (Or.inl rfl))  -- written `\"`
    · have e : quoteEsc [c] = [c] := by simp [quoteEsc, hq]
      rw [if_neg Bool.false_ne_true, Bool.false_and, if_neg Bool.false_ne_true, e]
      exact Dec.plain (fun h => by subst h; cases hm) hq (fun h => by subst h; cases hs) (fun h => by subst h; cases hs) h0
  | true =>
    -- written `\c`; the reader drops that backslash only before another backslash
    obtain ⟨-, hq, hq', he, hr⟩ := meta_facts c (by simpa [isMeta] using hm)
    have e : quoteEsc ['\\', c] = ['\\', c] := by simp [quoteEsc, hq]
    rw [if_pos rfl, e, Bool.true_and]
    by_cases hb : c = '\\'
    · subst hb; exact Dec.unescape (Or.inl rfl)
    · rw [if_pos (by simpa using hb)]; exact Dec.kept hb hq hq' he hr h0

theorem quoteEsc_append (a b : Str) : quoteEsc (a ++ b) = quoteEsc a ++ quoteEsc b := by
  simp [quoteEsc]

theorem dec_reWs : Dec (quoteEsc reWs) reWs :=
  (Dec.kept (c := 's') (by decide) (by decide) (by decide) (by decide) (by decide) (by decide)).append
    (Dec.plain (c := '*') (by decide) (by decide) (by decide) (by decide) (by decide))

theorem dec_word {w : Str} (hw : ∀ c ∈ w, isSpace c = false ∧ c.toNat ≠ 0) :
    Dec (quoteEsc (escapeRe w)) (litWord w) := by
  have e : quoteEsc (escapeRe w) = w.flatMap fun c => quoteEsc (escC c) := by
    simp [quoteEsc, escapeRe, List.flatMap_assoc]
  rw [e]
  exact Dec.flatMap fun c hc => dec_char (hw c hc).1 (hw c hc).2

theorem dec_words {ws : List Str} (h : ∀ w ∈ ws, ∀ c ∈ w, isSpace c = false ∧ c.toNat ≠ 0) :
    Dec (quoteEsc (joinWith reWs (ws.map escapeRe))) (joinWith reWs (ws.map litWord)) := by
  induction ws with
  | nil => exact Dec.nil
  | cons w ws ih =>
    have ih := ih fun x hx => h x (List.mem_cons_of_mem _ hx)
    cases ws with
    | nil => exact dec_word (h w List.mem_cons_self)
    | cons w' ws =>
      simp only [List.map_cons, joinWith, quoteEsc_append] at ih ⊢
      exact ((dec_word (h w List.mem_cons_self)).append dec_reWs).append ih

/-- the literal that `contains("…")` carries; a stripped text has a word unless it is empty -/
theorem literalOf_patternOf_strip {y : Str} (h0 : NoNul (strip y)) :
    literalOf (patternOf (strip y)) = some (joinWith reWs (((splitWs (strip y)).take 3).map litWord)) := by
  by_cases hne : (splitWs (strip y)).take 3 = []
  · have hs := (List.take_eq_nil_iff.mp hne).resolve_left (by decide)
    rw [strip_all_space_nil (splitWs_eq_nil hs)]; rfl
  · rw [patternOf_words hne]
    exact (dec_words fun w hw c hc =>
      have := mem_splitWs (List.mem_of_mem_take hw) hc
      ⟨this.1, h0 c this.2⟩).eq_some

/-- whether the suggested rule matches: `contains` looks for the words of the cleaned description, each
metacharacter still behind its backslash, joined by the characters `\s*` -/
theorem matchesSuggested_eq (o : Oracles) (d : Str) (h0 : NoNul (clean o d)) :
    matchesSuggested o d = containsCI o (joinWith reWs (((splitWs (clean o d)).take 3).map litWord)) d := by
  have h : literalOf (Impl.suggestPattern o d) = some _ := literalOf_patternOf_strip h0
  unfold matchesSuggested
  rw [h]
  rfl

theorem isEmpty_of_trimmedB {x : Str} (h : trimmedB x = true) : x.isEmpty = false := by
  cases x with
  | nil => cases h
  | cons a as => rfl

theorem strip_of_trimmedB {l : Str} (h : trimmedB l = true) : strip l = l := by
  unfold trimmedB at h
  split at h
  · next hh hl =>
    rw [Bool.and_eq_true] at h
    exact strip_eq_self (by simpa [hh] using h.1) (by simpa [hl] using h.2)
  · cases h

/-- the rule the block is read as -/
def loadedRule (e name cat sub : Str) (tags : List Str) : Rule :=
  { name := name, merchant := name, category := cat, subcategory := sub,
    tags := if tags.isEmpty then [] else splitTags (joinWith [',', ' '] tags),
    priority := 50, matchExpr := e, lets := [], fields := [] }

/-- a rule block `[name] / match: e / category: cat / subcategory: sub ( / tags: …)` whose parts carry no
white space at their ends and whose match expression the expression parser accepts is read as exactly
one rule with those parts -/
theorem ruleLines_load (ve : Str → Bool) {e name cat sub : Str} {tags : List Str}
    (he : trimmedB e = true) (hve : ve e = true) (hn : trimmedB name = true) (hc : trimmedB cat = true)
    (hs : trimmedB sub = true) (ht : tags.isEmpty = true ∨ trimmedB (joinWith [',', ' '] tags) = true) :
    RulesFile.Impl.parseRulesFile ve (ruleLines e name cat sub tags) =
      .ok { rules := [loadedRule e name cat sub tags], variables := [], transforms := [] } := by
  have e1 : ruleLines e name cat sub tags =
      blockLines name e cat sub (if tags.isEmpty then none else some (joinWith [',', ' '] tags)) := by
    unfold ruleLines; cases tags.isEmpty <;> rfl
  have hcat := isEmpty_of_trimmedB hc
  rw [RulesFile.Impl.parseRulesFile, e1,
    run_block 1 (by rw [strip_of_trimmedB hn]; exact isEmpty_of_trimmedB hn) (st := {}) rfl,
    strip_of_trimmedB he, strip_of_trimmedB hn, strip_of_trimmedB hc, strip_of_trimmedB hs]
  -- at the end of the file the open rule is closed: it has a category and `ve` accepts its expression
  unfold loadedRule
  cases htag : tags.isEmpty
  · simp [finish, closeCur, addRule, hasCategory, allValid, hve, mkRule, hcat,
      strip_of_trimmedB (ht.resolve_left (by simp [htag]))]
  · simp [finish, closeCur, addRule, hasCategory, allValid, hve, mkRule, hcat]

theorem trimmedB_quoted {a : Char} {pre p : Str} (ha : isSpace a = false) :
    trimmedB (a :: pre ++ quoteEsc p ++ ['"', ')']) = true := by
  rw [trimmedB, List.getLast?_append]
  show (!isSpace a && !isSpace ')') = true
  rw [ha]; rfl

theorem matchExprText_trimmed (p : Str) : trimmedB (matchExprText p) = true := trimmedB_quoted (by decide)

theorem Fixed.matchExprText_trimmed (p : Str) : trimmedB (Fixed.matchExprText p) = true := by
  fun_cases Fixed.matchExprText p
  · exact trimmedB_quoted (by decide)
  · exact Discover.matchExprText_trimmed p

end TallyVerif.Discover
