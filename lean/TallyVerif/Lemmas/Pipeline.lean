import TallyVerif.Model.PipelineCfg
import TallyVerif.Lemmas.MapM
/-! Lemmas under Props/C11 about `Model/Pipeline` (the loop of `cmd_run`, the legacy classifier) and `Model/PipelineCfg` (the run
from the settings object).  The list traversals are `List.mapM` in `Except` (the `_eq_mapM` lemmas; Lemmas/MapM says how those
split); the staged definitions have their inversion lemmas. -/

namespace TallyVerif.Pipeline
open TallyVerif.Py TallyVerif.Expr TallyVerif.Rules TallyVerif.Engine

theorem classifyAll_eq_mapM (classify : Row → Except Err Classified) (rows : List Row) :
    classifyAll classify rows = rows.mapM classify := by
  induction rows with
  | nil => rfl
  | cons r rows ih => rw [classifyAll, List.mapM_cons, ih]

theorem foldl_upStep (classify : Row → Except Err Classified) (sources : List Source) (acc : Except Err (List Classified)) :
    sources.foldl (upStep classify) acc =
      (do let a ← acc
          let b ← ((sources.filter (fun s => !s.supplemental)).flatMap Source.rows).mapM classify
          pure (a ++ b)) := by
  induction sources generalizing acc with
  | nil => simp
  | cons s rest ih =>
    rw [List.foldl_cons, ih]
    unfold upStep
    cases hs : s.supplemental <;> cases hp : s.parsed <;>
      simp [Source.rows, hs, hp, classifyAll_eq_mapM, List.mapM_append]
    -- left: an ordinary source that was read; the two sides bracket the appends differently
    exact bind_congr fun a => bind_congr fun x => congrArg (· <$> _) (funext fun y => List.append_assoc a x y)

/-- only an expression-shaped Pattern cell hands the supplemental rows to the evaluator (`legacyOutcome`): where no tuple has
one, the per-tuple answers are the same under any two lists of supplemental rows -/
theorem legacyEvalRules_plain (o : Oracles) (fnames : List String) (cutoff : Nat → Option Migrate.Date)
    (supp supp' : List (String × Val)) (row : Row) (rules : List LegacyRule)
    (h : ∀ r ∈ rules, isExpressionPattern r.rule.pattern r.patternE = false) :
    legacyEvalRules o fnames cutoff supp row rules = legacyEvalRules o fnames cutoff supp' row rules := by
  induction rules with
  | nil => rfl
  | cons r rest ih =>
    have hr := h r (List.mem_cons_self ..)
    simp only [legacyEvalRules, legacyEvalRule, legacyOutcome, hr, Bool.false_eq_true, if_false,
      ih (fun x hx => h x (List.mem_cons_of_mem _ hx))]

theorem classifyLegacy_ok {o : Oracles} {fnames : List String} {sources : List (String × Val)} {lb : LegacyBook} {row : Row}
    {res : LResult} (h : classifyLegacy o fnames sources lb row = .ok res) :
    ∃ table, legacyEvalRules o fnames lb.cutoff sources row lb.rules = .ok table ∧
      res = Rules.legacy (levOf table) (extractMerchantName row.description) (lb.rules.map (·.rule)) := by
  obtain ⟨table, ht, h⟩ := Except.bind_eq_ok.mp h
  cases h
  exact ⟨table, ht, rfl⟩

/-- the legacy arm of `classifyRow` run on a given table of per-tuple answers: a test vector evaluates the table once -/
theorem classifyRow_of_table {o : Oracles} {fnames : List String} {key : Rule → Key} {sources : List (String × Val)}
    {rb : Rulebook} {lb : LegacyBook} {r r' : Row} {table : List (LRule × LEval)}
    (hE : rb.hasEngine = false) (hl : rb.legacy = some lb) (hr : applyTransforms o fnames rb.transforms r = .ok r')
    (ht : legacyEvalRules o fnames lb.cutoff sources r' lb.rules = .ok table) :
    classifyRow o fnames key sources rb r =
      .ok (let res := Rules.legacy (levOf table) (extractMerchantName r'.description) (lb.rules.map (·.rule))
           ⟨res.merchant, res.category, res.subcategory, res.tags, r.amount, monthOf r.date⟩) := by
  unfold classifyRow
  rw [hr]
  simp only [bind, Except.bind, hE, hl, classifyLegacy, ht]
  rfl

end TallyVerif.Pipeline

namespace TallyVerif.PipelineCfg
open TallyVerif.Config TallyVerif.Pipeline TallyVerif.Py

theorem toSources_eq_mapM (w : World) (ps : List Planned) : toSources w ps = ps.mapM (toSource w) := by
  induction ps with
  | nil => rfl
  | cons p ps ih =>
    rw [toSources, List.mapM_except_cons, ih]
    cases toSource w p with
    | error err => rfl
    | ok s => cases ps.mapM (toSource w) <;> rfl

/-- the planned calls are ordinary sources: the filter of the loop keeps them all -/
theorem toSources_filter_ordinary {w : World} {plan : List Planned} {srcs : List Source} (h : toSources w plan = .ok srcs) :
    srcs.filter (fun s => !s.supplemental) = srcs := by
  rw [toSources_eq_mapM] at h
  refine List.filter_eq_self.mpr fun s hs => ?_
  obtain ⟨p, _, hp⟩ := List.mapM_ok_mem_right h hs
  obtain ⟨rows, _, rfl⟩ := Except.map_eq_ok hp
  rfl

theorem upFromSettings_ok {q : Bool} {env : Env} {w : World} {classify : ClassEnv → Row → Except Err Classified} {settings : Y}
    {T : List Classified} :
    upFromSettings q env w classify settings = .ok T ↔
      ∃ cfg plan srcs, resolveConfig env settings = .ok cfg ∧ planSources q env cfg = .ok plan ∧ toSources w plan = .ok srcs ∧
        upLoop (classify (classEnv cfg)) srcs = .ok T := by
  constructor
  · fun_cases upFromSettings q env w classify settings <;> intro h <;> cases h
    exact ⟨_, _, _, ‹_›, ‹_›, ‹_›, ‹_›⟩
  · rintro ⟨cfg, plan, srcs, h1, h2, h3, h4⟩
    simp only [upFromSettings, h1, h2, h3, h4]

end TallyVerif.PipelineCfg
