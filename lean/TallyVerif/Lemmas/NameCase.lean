import TallyVerif.Lemmas.ExprUnfold
import TallyVerif.Lemmas.AsciiCase
import TallyVerif.Model.ExprNames
/-!
Whole-tree identifier renaming: `eval o ctx (e.mapNames f) = eval o ctx e` for every `f` that keeps the
lower-cased spelling of every identifier (`CasePreserving f`), by mutual structural induction over expressions,
expression lists, comparison chains and generator clauses (`loopItems` is not recursive in the syntax: it receives
the already-renamed binder, condition and body).

No side condition on binders is needed: the evaluator (model and code) lower-cases the binder when it
BINDS (`comp.target.id.lower()`, `node.target.id.lower()` for `:=`) and lower-cases the name when it LOOKS
it up (`node.id.lower()`), so a binder written `X` and used as `x` meets itself in `_scope['x']`.

The evaluator sees a list of expressions only through the computations of its members: `SameEvals` relates two
lists whose members are one by one the same computation, the list evaluators and the three call constructors (which
dispatch on the shape of the argument list) respect it, and the induction only has to show that renaming gives
such a list.
-/
namespace TallyVerif.Expr
open TallyVerif.Py

/-- the renaming keeps the lower-cased spelling of every identifier -/
def CasePreserving (f : String → String) : Prop := ∀ id, lowerName (f id) = lowerName id

/-- lower-casing an identifier is idempotent (for EVERY string, ASCII or not: `lowerName` only moves A–Z) -/
theorem casePreserving_lower : CasePreserving lowerName :=
  fun s => map_map_eq s fun c _ => char_lower_lower c

theorem casePreserving_upper : CasePreserving String.toUpper :=
  fun s => map_map_eq s fun c _ => char_lower_upper c

theorem casePreserving_id : CasePreserving id := fun _ => rfl

/-- a renaming that chooses the spelling PER IDENTIFIER from a table of spellings (anything not in the
table is left alone) is case-preserving when every table entry is; the check compares character lists
(two computed `String`s are slow to compare in the kernel) -/
def tableOk (tbl : List (String × String)) : Bool :=
  tbl.all (fun kv => (lowerName kv.2).toList == (lowerName kv.1).toList)

theorem casePreserving_table (tbl : List (String × String)) (h : tableOk tbl = true) :
    CasePreserving (fun id => (tbl.lookup id).getD id) := by
  intro id
  show lowerName ((tbl.lookup id).getD id) = lowerName id
  cases hl : tbl.lookup id with
  | none => rfl
  | some v =>
    obtain ⟨l₁, l₂, e, -⟩ := List.lookup_eq_some_iff.mp hl
    have hentry := List.all_eq_true.mp h (id, v) (by simp [e])
    exact String.toList_inj.mp (by simpa using hentry)

theorem lookupName_congr (ctx : Ctx) {id id' : String} (h : lowerName id = lowerName id') :
    lookupName ctx id = lookupName ctx id' := by
  simp only [lookupName, h]

inductive SameEvals (o : Oracles) (ctx : Ctx) : List Expr → List Expr → Prop
  | nil : SameEvals o ctx [] []
  | cons {e' e : Expr} {es' es : List Expr} (h : eval o ctx e' = eval o ctx e) (t : SameEvals o ctx es' es) :
    SameEvals o ctx (e' :: es') (e :: es)

namespace SameEvals
variable {o : Oracles} {ctx : Ctx} {es' es : List Expr} (h : SameEvals o ctx es' es)
include h

theorem length_eq : es'.length = es.length := by
  induction h with
  | nil => rfl
  | cons _ _ ih => rw [List.length_cons, List.length_cons, ih]

theorem map_eval : es'.map (eval o ctx) = es.map (eval o ctx) := by
  induction h with
  | nil => rfl
  | cons he _ ih => rw [List.map_cons, List.map_cons, he, ih]

theorem evalArgs_eq : evalArgs o ctx es' = evalArgs o ctx es := by
  induction h with
  | nil => rfl
  | cons he _ ih => rw [evalArgs_cons, evalArgs_cons, he, ih]

theorem evalLazyArgs_eq (c : Consumer) : evalLazyArgs o ctx c es' = evalLazyArgs o ctx c es := by
  induction h with
  | nil => rfl
  | cons he _ ih => funext acc; rw [evalLazyArgs_cons, evalLazyArgs_cons, he, ih]

theorem evalBool_eq (isAnd : Bool) : evalBool o ctx isAnd es' = evalBool o ctx isAnd es := by
  induction h with
  | nil => rfl
  | cons he _ ih => rw [evalBool_cons, evalBool_cons, he, ih]

theorem evalConds_eq : evalConds o ctx es' = evalConds o ctx es := by
  induction h with
  | nil => rfl
  | cons he _ ih => rw [evalConds_cons, evalConds_cons, he, ih]

end SameEvals

theorem eval_callName_congr {o : Oracles} {ctx : Ctx} {g g' : String} {args args' : List Expr}
    (hg : lowerName g' = lowerName g) (h : SameEvals o ctx args' args) :
    eval o ctx (.callName g' args') = eval o ctx (.callName g args) := by
  unfold eval
  rw [hg, h.evalArgs_eq, h.evalLazyArgs_eq, h.evalLazyArgs_eq, h.length_eq]
  -- both lists have no, one, two or more members
  rcases h with _ | ⟨h1, _ | ⟨h2, _ | _⟩⟩
  · rfl
  · dsimp only; rw [h1]
  · dsimp only; rw [h1, h2]
  · rfl

theorem eval_callNameGen_congr {o : Oracles} {ctx : Ctx} {g g' : String} {elt elt' : Expr} {gens gens' : List Comp}
    {more more' : List Expr}
    (hg : lowerName g' = lowerName g) (he : eval o ctx elt' = eval o ctx elt) (hgens : evalGens o ctx gens' = evalGens o ctx gens)
    (h : SameEvals o ctx more' more) :
    eval o ctx (.callNameGen g' elt' gens' more') = eval o ctx (.callNameGen g elt gens more) := by
  unfold eval
  rw [hg, he, hgens, h.evalArgs_eq]
  rcases h with _ | ⟨h1, _ | _⟩
  · rfl
  · dsimp only; rw [h1]
  · dsimp only; rw [h1]

theorem eval_callAttr_congr {o : Oracles} {ctx : Ctx} {recv recv' : Expr} {m m' : String} {args args' : List Expr}
    (hr : eval o ctx recv' = eval o ctx recv) (hm : lowerName m' = lowerName m) (h : SameEvals o ctx args' args) :
    eval o ctx (.callAttr recv' m' args') = eval o ctx (.callAttr recv m args) := by
  unfold eval
  rw [hr, hm]
  rcases h with _ | ⟨h1, _ | ⟨h2, _ | _⟩⟩
  · rfl
  · dsimp only; rw [h1]
  · dsimp only; rw [h1, h2]
  · rfl

section
set_option linter.unusedSectionVars false     -- `hf` reaches every member through the mutual calls
variable (o : Oracles) (ctx : Ctx) (f : String → String) (hf : CasePreserving f)
include hf

mutual
theorem eval_mapNames_aux : (e : Expr) → eval o ctx (e.mapNames f) = eval o ctx e
  | .const v => rfl
  | .name id => by
    unfold Expr.mapNames; rw [eval_name, eval_name]
    exact lookupName_congr ctx (hf id)
  | .attr e a => by
    unfold Expr.mapNames; rw [eval_attr, eval_attr, eval_mapNames_aux e, hf a]
  | .attrName id a => by
    unfold Expr.mapNames; rw [eval_attrName, eval_attrName, hf id, hf a, lookupName_congr ctx (hf id)]
  | .callName g args => by
    unfold Expr.mapNames
    exact eval_callName_congr (hf g) (sameEvals_mapNames_aux args)
  | .callNameGen g elt gens more => by
    unfold Expr.mapNames
    exact eval_callNameGen_congr (hf g) (eval_mapNames_aux elt) (evalGens_mapNames_aux gens) (sameEvals_mapNames_aux more)
  | .callAttr recv meth args => by
    unfold Expr.mapNames
    exact eval_callAttr_congr (eval_mapNames_aux recv) (hf meth) (sameEvals_mapNames_aux args)
  | .callOther g args => by
    unfold Expr.mapNames; rw [eval_callOther, eval_callOther]
  | .boolop isAnd es => by
    unfold Expr.mapNames; rw [eval_boolop, eval_boolop, (sameEvals_mapNames_aux es).evalBool_eq]
  | .unop op e => by
    unfold Expr.mapNames; rw [eval_unop, eval_unop, eval_mapNames_aux e]
  | .binop op l r => by
    unfold Expr.mapNames; rw [eval_binop, eval_binop, eval_mapNames_aux l, eval_mapNames_aux r]
  | .cmp l links => by
    unfold Expr.mapNames; rw [eval_cmp, eval_cmp, eval_mapNames_aux l]
    simp only [evalLinks_mapNames_aux links]
  | .ifexp c t e => by
    unfold Expr.mapNames; rw [eval_ifexp, eval_ifexp, eval_mapNames_aux c, eval_mapNames_aux t, eval_mapNames_aux e]
  | .listcomp elt gens => by
    unfold Expr.mapNames; rw [eval_listcomp, eval_listcomp, eval_mapNames_aux elt, evalGens_mapNames_aux gens]
  | .genexp elt gens => by
    unfold Expr.mapNames; rw [eval_genexp, eval_genexp]
  | .subscript e i => by
    unfold Expr.mapNames; rw [eval_subscript, eval_subscript, eval_mapNames_aux e, eval_mapNames_aux i]
  | .walrus id e => by
    unfold Expr.mapNames; rw [eval_walrus, eval_walrus, eval_mapNames_aux e, hf id]
theorem sameEvals_mapNames_aux : (es : List Expr) → SameEvals o ctx (mapNamesList f es) es
  | [] => .nil
  | e :: es => by
    rw [mapNamesList]
    exact .cons (eval_mapNames_aux e) (sameEvals_mapNames_aux es)
theorem evalLinks_mapNames_aux : (links : List Link) → ∀ left : Val,
    evalLinks o ctx left (mapNamesLinks f links) = evalLinks o ctx left links
  | [] => fun _ => rfl
  | .mk op e :: rest => by
    intro left
    rw [mapNamesLinks, evalLinks_cons, evalLinks_cons, eval_mapNames_aux e]
    simp only [evalLinks_mapNames_aux rest]
theorem evalGens_mapNames_aux : (gens : List Comp) → evalGens o ctx (mapNamesComps f gens) = evalGens o ctx gens
  | [] => rfl
  | .mk target iter ifs :: gs => by
    funext body acc
    rw [mapNamesComps, evalGens_cons, evalGens_cons, eval_mapNames_aux iter, (sameEvals_mapNames_aux ifs).evalConds_eq,
      evalGens_mapNames_aux gs]
    cases target with
    | none => rfl
    | some x => simp only [Option.map_some, hf x]
end

/-- argument lists evaluate pointwise to the same computations -/
theorem evalEach_mapNames_aux : (es : List Expr) → (mapNamesList f es).map (eval o ctx) = es.map (eval o ctx) :=
  fun es => (sameEvals_mapNames_aux o ctx f hf es).map_eval
end

end TallyVerif.Expr
