import TallyVerif.Model.Strptime
import TallyVerif.Lemmas.Text
import TallyVerif.Lemmas.MapM
/-! Lemmas about `Model/Strptime.lean`, the model of CPython's `datetime.strptime`, with which tally's `parse_generic_csv` reads
the date cell of a statement row (property C05); in three sections.

`FirstMatch`.  The backtracking matcher `matchItems` computes the FIRST choice vector, in the priority order of the regular
expression (alternatives in the order written, `\s+` longest first), under which the pattern matches a prefix of the text
(`matchWith` = the pattern with every choice fixed; `Prior` = the priority order).  The proof goes one item at a time
(`choice`): `matchItems_cons` says which choice the matcher takes for the first item, `isFirst_cons` that the first matching
vector begins with that very choice, and `matchItems_first` follows by induction on the items.

`RoundTrip`.  `strptime` reads back what `strftime` wrote.  Every item of the compiled format writes a non-empty piece that is
white space exactly if the item is a white-space run (`renderItem_chars`), and the first alternative of a directive that
matches at the start of its piece takes the piece and no more (`piece_group`); so the matcher consumes the text item by
item (`matchItems_render`), the conversion loop recovers the fields (`convertGo_render`) and `finish` the date
(`strptime_of_items`).  What is finite by nature - which alternative of `%d %m %H %M %S` takes which value, the month-name
tables - is one kernel-evaluated fact per table (`numFact_all`, `month_tables`).  The numeric facts speak of `asciiTables`
and the piece alone: matching under any `T` with `TablesOk T`, on `piece ++ rest`, reduces to that (`matchAlt_piece`,
`firstLocal_numeric`).

`Outcomes`.  What an outcome of `strptime` says: an `ok` went through a compiled format, a match of the whole text, the
conversion and `finish`, whose last step checks the date (`strptime_ok_parts`, `finish_valid`); once the format compiles,
whatever stage fails, the error is one of the `ValueError`s (`strptime_err_of_compile_ok`).  Last, after the sections, the
ASCII tables are a model of `TablesOk`. -/
namespace TallyVerif.Strptime
open TallyVerif.Csv (Str isPySpace)

variable {T : Tables}

section FirstMatch

/-- The pattern with all choices made: `v` gives, per item, the index of the alternative taken (group), the number of
white-space characters consumed (`\s+`), `0` (literal). -/
def matchWith (T : Tables) : List Item → List Nat → Str → Option (Caps × Str)
  | [], [], s => some ([], s)
  | .lit c :: is, 0 :: v, t :: r => if T.ciMatch c t then matchWith T is v r else none
  | .spaces _ :: is, k :: v, s => if 1 ≤ k ∧ k ≤ spaceRun s then matchWith T is v (s.drop k) else none
  | .group n alts :: is, i :: v, s =>
    match alts[i]? with
    | none => none
    | some alt =>
      match matchAlt T alt s with
      | none => none
      | some (m, r) => (matchWith T is v r).map fun (caps, rest) => ((n, m) :: caps, rest)
  | _, _, _ => none

/-- which of two choices for one item the regex engine tries first -/
def Better : Item → Nat → Nat → Prop
  | .group _ _, a, b => a < b
  | .spaces _, a, b => b < a
  | .lit _, _, _ => False

/-- `Prior is v' v`: the engine tries the choice vector `v'` before `v` (lexicographic, first item most significant) -/
def Prior : List Item → List Nat → List Nat → Prop
  | it :: is, a :: v', b :: v => Better it a b ∨ (a = b ∧ Prior is v' v)
  | _, _, _ => False

/-- `r` is the result of the first choice vector in priority order that matches -/
def IsFirst (T : Tables) (is : List Item) (s : Str) (r : Caps × Str) : Prop :=
  ∃ v, matchWith T is v s = some r ∧ ∀ v', Prior is v' v → matchWith T is v' s = none

theorem firstSome_eq_findSome? {α β : Type} (f : α → Option β) (l : List α) : firstSome f l = l.findSome? f := by
  induction l with
  | nil => rfl
  | cons a as ih => rw [firstSome, List.findSome?_cons, ih]; cases f a <;> rfl

theorem firstSome_eq_some {α β : Type} {f : α → Option β} {l : List α} {b : β} :
    firstSome f l = some b ↔
      ∃ (i : Nat) (a : α), l[i]? = some a ∧ f a = some b ∧ ∀ (j : Nat) (a' : α), j < i → l[j]? = some a' → f a' = none := by
  rw [firstSome_eq_findSome?, List.findSome?_eq_some_iff]
  constructor
  · rintro ⟨l₁, a, l₂, rfl, ha, hmin⟩
    refine ⟨l₁.length, a, by simp, ha, fun j a' hj hj' => hmin a' ?_⟩
    rw [List.getElem?_append_left hj] at hj'
    exact List.mem_of_getElem? hj'
  · rintro ⟨i, a, hi, ha, hmin⟩
    obtain ⟨hlt, rfl⟩ := List.getElem?_eq_some_iff.mp hi
    refine ⟨l.take i, l[i], l.drop (i + 1), by rw [List.getElem_cons_drop, List.take_append_drop], ha, fun x hx => ?_⟩
    obtain ⟨j, hj, rfl⟩ := List.mem_take_iff_getElem.mp hx
    exact hmin j _ (Nat.lt_of_lt_of_le hj (Nat.min_le_left ..)) (List.getElem?_eq_getElem _)

theorem firstSome_eq_none {α β : Type} {f : α → Option β} {l : List α} :
    firstSome f l = none ↔ ∀ a ∈ l, f a = none := by
  rw [firstSome_eq_findSome?, List.findSome?_eq_none_iff]

theorem tryDown_succ {β : Type} (f : Nat → Option β) (n : Nat) : tryDown f (n + 1) = (f (n + 1)).or (tryDown f n) := by
  rw [tryDown]; cases f (n + 1) <;> rfl

theorem tryDown_eq_some {β : Type} {f : Nat → Option β} {n : Nat} {b : β} :
    tryDown f n = some b ↔ ∃ k, 1 ≤ k ∧ k ≤ n ∧ f k = some b ∧ ∀ k', k < k' → k' ≤ n → f k' = none := by
  induction n with
  | zero => exact ⟨nofun, fun ⟨k, h1, h2, _⟩ => absurd (Nat.le_trans h1 h2) (Nat.not_succ_le_zero 0)⟩
  | succ n ih =>
    rw [tryDown_succ, Option.or_eq_some_iff, ih]
    constructor
    · rintro (h | ⟨h0, k, h1, h2, hk, hmin⟩)
      · exact ⟨n + 1, Nat.succ_pos n, Nat.le_refl _, h, fun k' h1 h2 => absurd (Nat.lt_of_lt_of_le h1 h2) (Nat.lt_irrefl _)⟩
      · refine ⟨k, h1, Nat.le_succ_of_le h2, hk, fun k' h3 h4 => ?_⟩
        rcases Nat.lt_or_eq_of_le h4 with h4 | rfl
        · exact hmin k' h3 (Nat.le_of_lt_succ h4)
        · exact h0
    · rintro ⟨k, h1, h2, hk, hmin⟩
      rcases Nat.lt_or_eq_of_le h2 with h2 | rfl
      · exact .inr ⟨hmin (n + 1) h2 (Nat.le_refl _), k, h1, Nat.le_of_lt_succ h2, hk,
          fun k' h3 h4 => hmin k' h3 (Nat.le_succ_of_le h4)⟩
      · exact .inl hk

theorem tryDown_eq_none {β : Type} {f : Nat → Option β} {n : Nat} :
    tryDown f n = none ↔ ∀ k, 1 ≤ k → k ≤ n → f k = none := by
  induction n with
  | zero => exact ⟨fun _ k h1 h2 => absurd (Nat.le_trans h1 h2) (Nat.not_succ_le_zero 0), fun _ => rfl⟩
  | succ n ih =>
    rw [tryDown_succ, Option.or_eq_none_iff, ih]
    constructor
    · rintro ⟨h0, h⟩ k h1 h2
      rcases Nat.lt_or_eq_of_le h2 with h2 | rfl
      · exact h k h1 (Nat.le_of_lt_succ h2)
      · exact h0
    · exact fun h => ⟨h _ (Nat.succ_pos n) (Nat.le_refl _), fun k h1 h2 => h k h1 (Nat.le_succ_of_le h2)⟩

/-- one item under the choice `a`: its captures and the text left -/
def choice (T : Tables) : Item → Nat → Str → Option (Caps × Str)
  | .lit c, 0, t :: r => if T.ciMatch c t then some ([], r) else none
  | .spaces _, k, s => if 1 ≤ k ∧ k ≤ spaceRun s then some ([], s.drop k) else none
  | .group n alts, i, s => (alts[i]?.bind fun alt => matchAlt T alt s).map fun (m, r) => ([(n, m)], r)
  | _, _, _ => none

/-- the captures of the rest, with this item's in front -/
def withCap (cap : Caps) : Caps × Str → Caps × Str := fun (caps, rest) => (cap ++ caps, rest)

theorem withCap_nil : withCap [] = id := rfl

theorem matchWith_cons_nil (T : Tables) (it : Item) (is : List Item) (s : Str) : matchWith T (it :: is) [] s = none := by
  cases it <;> rfl

theorem matchWith_cons (T : Tables) (it : Item) (is : List Item) (a : Nat) (v : List Nat) (s : Str) :
    matchWith T (it :: is) (a :: v) s =
      (choice T it a s).bind fun x => (matchWith T is v x.2).map (withCap x.1) := by
  cases it with
  | lit c =>
    cases a with
    | succ a => rfl
    | zero => cases s with
      | nil => rfl
      | cons t r => simp only [matchWith, choice]; split <;> simp [withCap_nil]
  | spaces run => simp only [matchWith, choice]; split <;> simp [withCap_nil]
  | group n alts =>
    simp only [matchWith, choice]
    cases alts[a]? with
    | none => rfl
    | some alt => simp only [Option.bind_some]; cases matchAlt T alt s <;> rfl

theorem matchWith_cons_none {it : Item} {is : List Item} {a : Nat} {v : List Nat} {s : Str} :
    matchWith T (it :: is) (a :: v) s = none ↔ ∀ x, choice T it a s = some x → matchWith T is v x.2 = none := by
  simp only [matchWith_cons, Option.bind_eq_none_iff, Option.map_eq_none_iff]

theorem choice_lit {c : Char} {a : Nat} {s : Str} {x : Caps × Str} (h : choice T (.lit c) a s = some x) :
    ∃ t, s = t :: x.2 ∧ T.ciMatch c t = true ∧ x.1 = [] := by
  cases a with
  | succ a => cases h
  | zero => cases s with
    | nil => cases h
    | cons t r =>
      simp only [choice] at h
      split at h
      · rename_i hc; cases h; exact ⟨t, rfl, hc, rfl⟩
      · cases h

theorem choice_spaces {run : Str} {k : Nat} {s : Str} {x : Caps × Str}
    (h : choice T (.spaces run) k s = some x) : (1 ≤ k ∧ k ≤ spaceRun s) ∧ x = ([], s.drop k) := by
  simp only [choice] at h
  split at h
  · rename_i hr; cases h; exact ⟨hr, rfl⟩
  · cases h

theorem choice_group {n : Char} {alts : List (List CC)} {a : Nat} {s : Str} {x : Caps × Str}
    (h : choice T (.group n alts) a s = some x) :
    ∃ alt m, alts[a]? = some alt ∧ matchAlt T alt s = some (m, x.2) ∧ x.1 = [(n, m)] := by
  obtain ⟨⟨m, r⟩, hmr, rfl⟩ := Option.map_eq_some_iff.mp h
  obtain ⟨alt, ha, hma⟩ := Option.bind_eq_some_iff.mp hmr
  exact ⟨alt, m, ha, hma, rfl⟩

theorem matchItems_cons {it : Item} {is : List Item} {s : Str} {res : Caps × Str} :
    matchItems T (it :: is) s = some res ↔
      ∃ a cap r x, choice T it a s = some (cap, r) ∧ matchItems T is r = some x ∧ res = withCap cap x ∧
        ∀ a' x', Better it a' a → choice T it a' s = some x' → matchItems T is x'.2 = none := by
  cases it with
  | lit c =>
    constructor
    · intro h
      cases s with
      | nil => cases h
      | cons t r =>
        simp only [matchItems] at h
        split at h
        · rename_i hc
          exact ⟨0, [], r, res, if_pos hc, h, rfl, fun _ _ hb => hb.elim⟩
        · cases h
    · rintro ⟨a, cap, r, x, hc, hx, rfl, -⟩
      obtain ⟨t, rfl, hm, rfl⟩ := choice_lit hc
      simpa [matchItems, hm, withCap_nil] using hx
  | spaces run =>
    rw [matchItems, tryDown_eq_some]
    constructor
    · rintro ⟨k, h1, h2, hk, hmin⟩
      refine ⟨k, [], s.drop k, res, if_pos ⟨h1, h2⟩, hk, rfl, fun a' x' hb hc => ?_⟩
      obtain ⟨hr, hx⟩ := choice_spaces hc
      cases hx; exact hmin a' hb hr.2
    · rintro ⟨k, cap, r, x, hc, hx, rfl, hmin⟩
      obtain ⟨hr, he⟩ := choice_spaces hc
      cases he
      exact ⟨k, hr.1, hr.2, hx, fun k' h3 h4 => hmin k' _ h3 (if_pos ⟨Nat.le_trans hr.1 (Nat.le_of_lt h3), h4⟩)⟩
  | group n alts =>
    rw [matchItems, firstSome_eq_some]
    constructor
    · rintro ⟨i, alt, hi, hga, hmin⟩
      cases hma : matchAlt T alt s with
      | none => rw [hma] at hga; cases hga
      | some mr =>
        obtain ⟨m, r⟩ := mr
        rw [hma] at hga
        obtain ⟨x, hx, rfl⟩ := Option.map_eq_some_iff.mp hga
        refine ⟨i, [(n, m)], r, x, by rw [choice, hi, Option.bind_some, hma]; rfl, hx, rfl, fun a' x' hb hc => ?_⟩
        obtain ⟨alt', m', ha, hma', -⟩ := choice_group hc
        have := hmin a' alt' hb ha
        rw [hma'] at this
        exact Option.map_eq_none_iff.mp this
    · rintro ⟨i, cap, r, x, hc, hx, rfl, hmin⟩
      obtain ⟨alt, m, hi, hma, rfl⟩ := choice_group hc
      refine ⟨i, alt, hi, by rw [hma]; exact congrArg (Option.map _) hx, fun j alt' hj hj' => ?_⟩
      cases hma' : matchAlt T alt' s with
      | none => rfl
      | some mr =>
        exact Option.map_eq_none_iff.mpr (hmin j ([(n, mr.1)], mr.2) hj (by rw [choice, hj', Option.bind_some, hma']; rfl))

theorem matchItems_cons_none {it : Item} {is : List Item} {s : Str} (h : matchItems T (it :: is) s = none)
    {a : Nat} {x : Caps × Str} (hc : choice T it a s = some x) : matchItems T is x.2 = none := by
  cases it with
  | lit c =>
    obtain ⟨t, rfl, hm, -⟩ := choice_lit hc
    simpa [matchItems, hm] using h
  | spaces run =>
    obtain ⟨hr, hx⟩ := choice_spaces hc
    cases hx; exact tryDown_eq_none.mp h a hr.1 hr.2
  | group n alts =>
    obtain ⟨alt, m, ha, hma, -⟩ := choice_group hc
    have := firstSome_eq_none.mp h alt (List.mem_of_getElem? ha)
    rw [hma] at this
    exact Option.map_eq_none_iff.mp this

theorem isFirst_cons {it : Item} {is : List Item} {s : Str} {res : Caps × Str} :
    IsFirst T (it :: is) s res ↔
      ∃ a cap r x, choice T it a s = some (cap, r) ∧ IsFirst T is r x ∧ res = withCap cap x ∧
        ∀ a' x', Better it a' a → choice T it a' s = some x' → ∀ w, matchWith T is w x'.2 = none := by
  constructor
  · rintro ⟨v, hv, hmin⟩
    cases v with
    | nil => rw [matchWith_cons_nil] at hv; cases hv
    | cons a w =>
      rw [matchWith_cons] at hv
      obtain ⟨⟨cap, r⟩, hc, hv⟩ := Option.bind_eq_some_iff.mp hv
      obtain ⟨x, hw, rfl⟩ := Option.map_eq_some_iff.mp hv
      exact ⟨a, cap, r, x, hc, ⟨w, hw, fun w' hp => matchWith_cons_none.mp (hmin (a :: w') (Or.inr ⟨rfl, hp⟩)) _ hc⟩, rfl,
        fun a' x' hb hc' w' => matchWith_cons_none.mp (hmin (a' :: w') (Or.inl hb)) _ hc'⟩
  · rintro ⟨a, cap, r, x, hc, ⟨w, hw, hwmin⟩, rfl, hbet⟩
    refine ⟨a :: w, by rw [matchWith_cons, hc, Option.bind_some, hw]; rfl, fun v' hp => ?_⟩
    cases v' with
    | nil => exact matchWith_cons_nil ..
    | cons a' w' =>
      refine matchWith_cons_none.mpr fun x' hc' => ?_
      obtain hb | ⟨rfl, hp'⟩ := hp
      · exact hbet a' x' hb hc' w'
      · cases hc.symm.trans hc'; exact hwmin w' hp'

/-- **The backtracking matcher finds the first match in priority order.**  `matchItems` returns `r` exactly when `r` is the
result of a choice vector under which the pattern matches and every vector the engine would try earlier does not match;
it returns nothing exactly when no choice vector matches. -/
theorem matchItems_first (T : Tables) (is : List Item) :
    ∀ s, (∀ r, matchItems T is s = some r ↔ IsFirst T is s r) ∧
         (matchItems T is s = none ↔ ∀ v, matchWith T is v s = none) := by
  induction is with
  | nil =>
    intro s
    refine ⟨fun r => ⟨fun h => ⟨[], h, fun _ hp => hp.elim⟩, ?_⟩, nofun, fun h => nomatch h []⟩
    rintro ⟨v, hv, -⟩
    cases v with
    | nil => exact hv
    | cons _ _ => cases hv
  | cons it is ih =>
    intro s
    have hsome : ∀ res, matchItems T (it :: is) s = some res ↔ IsFirst T (it :: is) s res := fun res => by
      rw [matchItems_cons, isFirst_cons]
      -- the two steps differ only in what they say of the rest: the matcher's answer there, or the specification's
      simp only [(ih _).1, (ih _).2]
    refine ⟨hsome, fun h v => ?_, fun hall => ?_⟩
    · cases v with
      | nil => exact matchWith_cons_nil ..
      | cons a w => exact matchWith_cons_none.mpr fun x hc => (ih x.2).2.mp (matchItems_cons_none h hc) w
    · cases hm : matchItems T (it :: is) s with
      | none => rfl
      | some r' =>
        obtain ⟨v', hv', -⟩ := (hsome r').mp hm
        rw [hall v'] at hv'; cases hv'

end FirstMatch

section RoundTrip
open TallyVerif.Csv (digitChar)

theorem digitChar_ascii {d : Nat} (h : d < 10) : isAscii (digitChar d) = true := by
  rw [isAscii, Csv.digitChar_toNat h]; exact decide_eq_true (by omega)

theorem TablesOk.digitVal_digitChar (hT : TablesOk T) {d : Nat} (h : d < 10) : T.digitVal (digitChar d) = some d := by
  rw [hT.digit_ascii _ (digitChar_ascii h)]; exact Csv.digitVal_digitChar h

theorem pyInt_of_no_space {s : Str} (hh : ∀ c, s.head? = some c → isPySpace c = false)
    (hl : ∀ c, s.getLast? = some c → isPySpace c = false) : pyInt T s = natOfDigits T 0 false s := by
  unfold pyInt; rw [Csv.strip_eq_self s hh hl]

/-- no character of `s` is white space (Python's `str.isspace`) -/
def NoSpace (s : Str) : Prop := ∀ c ∈ s, isPySpace c = false

/-- `s` is the number `v` written in ASCII digits -/
def Numeral (s : Str) (v : Nat) : Prop :=
  ∃ ds : List Nat, ds ≠ [] ∧ (∀ d ∈ ds, d < 10) ∧ s = ds.map digitChar ∧ Csv.ofDigits ds = v

theorem natOfDigits_digits (hT : TablesOk T) (ds : List Nat) (hds : ∀ d ∈ ds, d < 10) (acc : Nat) (any : Bool)
    (hne : any = true ∨ ds ≠ []) :
    natOfDigits T acc any (ds.map digitChar) = some (ds.foldl (fun a d => 10 * a + d) acc) := by
  induction ds generalizing acc any with
  | nil => simpa [natOfDigits] using hne
  | cons d ds ih =>
    simp only [List.map_cons, natOfDigits, hT.digitVal_digitChar (hds d (List.mem_cons_self ..)), List.foldl_cons]
    exact ih (fun d' h => hds d' (List.mem_cons_of_mem _ h)) _ _ (Or.inl rfl)

theorem Numeral.noSpace {s : Str} {v : Nat} (h : Numeral s v) : NoSpace s := by
  obtain ⟨ds, -, hds, rfl, -⟩ := h
  intro c hc
  obtain ⟨d, hd, rfl⟩ := List.mem_map.mp hc
  exact Csv.digitChar_not_space (hds d hd)

theorem Numeral.ne_nil {s : Str} {v : Nat} (h : Numeral s v) : s ≠ [] := by
  obtain ⟨ds, hne, -, rfl, -⟩ := h
  simpa using hne

theorem Numeral.pyInt (hT : TablesOk T) {s : Str} {v : Nat} (h : Numeral s v) : pyInt T s = some v := by
  have hns := h.noSpace
  obtain ⟨ds, hne, hds, rfl, rfl⟩ := h
  rw [pyInt_of_no_space (fun c hc => hns c (List.mem_of_head? hc)) (fun c hc => hns c (List.mem_of_getLast? hc))]
  exact natOfDigits_digits hT ds hds 0 false (Or.inr hne)

theorem mod10_lt (n : Nat) : n % 10 < 10 := Nat.mod_lt n (by decide)

theorem numeral_pad2 {n : Nat} (h : n < 100) : Numeral (pad2 n) n := by
  refine ⟨[n / 10 % 10, n % 10], List.cons_ne_nil _ _, by simp [mod10_lt], rfl, ?_⟩
  show 10 * (10 * 0 + n / 10 % 10) + n % 10 = n
  rw [Nat.mul_zero, Nat.zero_add, Nat.mod_eq_of_lt (Nat.div_lt_of_lt_mul h), Nat.div_add_mod]

theorem numeral_pad4 {n : Nat} (h : n < 10000) : Numeral (pad4 n) n := by
  refine ⟨[n / 1000 % 10, n / 100 % 10, n / 10 % 10, n % 10], List.cons_ne_nil _ _, by simp [mod10_lt], rfl, ?_⟩
  -- the value digit by digit: `10 * (m / 10) + m % 10 = m` for `m = n / 100`, `n / 10`, `n`
  have e1 : n / 1000 % 10 = n / 100 / 10 := by
    rw [Nat.div_div_eq_div_mul]; exact Nat.mod_eq_of_lt (Nat.div_lt_of_lt_mul h)
  have e2 : n / 100 = n / 10 / 10 := (Nat.div_div_eq_div_mul n 10 10).symm
  show 10 * (10 * (10 * (10 * 0 + n / 1000 % 10) + n / 100 % 10) + n / 10 % 10) + n % 10 = n
  rw [Nat.mul_zero, Nat.zero_add, e1, Nat.div_add_mod, e2, Nat.div_add_mod, Nat.div_add_mod]

theorem numeral_num2 (sp : Spell) {n : Nat} (h : n < 100) : Numeral (num2 sp n) n := by
  unfold num2; split
  · rename_i hc; exact ⟨[n], List.cons_ne_nil _ _, by simpa using hc.2, rfl, by simp [Csv.ofDigits]⟩
  · exact numeral_pad2 h

/-- the first alternative (in the order written) that matches at the start of the text, on its own -/
def firstLocal (T : Tables) (alts : List (List CC)) (s : Str) : Option (Str × Str) :=
  firstSome (fun alt => matchAlt T alt s) alts

theorem matchItems_group_of_firstLocal {n : Char} {alts : List (List CC)} {is : List Item} {s m r : Str}
    {caps : Caps} {rest : Str} (h1 : firstLocal T alts s = some (m, r)) (h2 : matchItems T is r = some (caps, rest)) :
    matchItems T (.group n alts :: is) s = some ((n, m) :: caps, rest) := by
  obtain ⟨i, alt, hi, hma, hmin⟩ := firstSome_eq_some.mp h1
  refine matchItems_cons.mpr ⟨i, [(n, m)], r, _, by rw [choice, hi, Option.bind_some, hma]; rfl, h2, rfl,
    fun a' x' hb hc => ?_⟩
  obtain ⟨alt', m', ha', hma', -⟩ := choice_group hc
  exact absurd ((hmin a' alt' hb ha').symm.trans hma') nofun

/-- the class does not consult the case table `T.ciMatch`: anything but `.ci` -/
def CC.nonCi : CC → Bool
  | .ci _ => false
  | _ => true

/-- a class that only a digit can match: `\d`, a range of ASCII digits, one ASCII digit -/
def CC.numeric : CC → Bool
  | .digit => true
  | .range lo hi => 48 ≤ lo.toNat && hi.toNat ≤ 57
  | .exact c => 48 ≤ c.toNat && c.toNat ≤ 57
  | .ci _ => false

theorem numeric_not_matches (hT : TablesOk T) (cc : CC) (c : Char) (hc : cc.numeric = true)
    (hd : T.digitVal c = none) : cc.matches T c = false := by
  have key : ∀ (h1 : 48 ≤ c.toNat) (h2 : c.toNat ≤ 57), False := by
    intro h1 h2
    have ha : isAscii c = true := by simp [isAscii]; omega
    rw [hT.digit_ascii c ha] at hd
    simp [Csv.digitVal?, h1, h2] at hd
  cases cc with
  | digit => simp [CC.matches, hd]
  | range lo hi =>
    simp only [CC.numeric, Bool.and_eq_true, decide_eq_true_eq] at hc
    simp only [CC.matches, Bool.and_eq_false_imp, decide_eq_true_eq, decide_eq_false_iff_not]
    intro h1 h2
    exact key (by omega) (by omega)
  | exact e =>
    simp only [CC.numeric, Bool.and_eq_true, decide_eq_true_eq] at hc
    simp only [CC.matches, beq_eq_false_iff_ne, ne_eq]
    intro h; subst h
    exact key hc.1 hc.2
  | ci e => cases hc

/-- what follows a piece does not begin with a digit -/
def BoundaryOk (T : Tables) (rest : Str) : Prop := ∀ c, rest.head? = some c → T.digitVal c = none

theorem cc_matches_ascii (hT : TablesOk T) (cc : CC) (t : Char) (hcc : cc.nonCi = true) (ht : isAscii t = true) :
    cc.matches T t = cc.matches asciiTables t := by
  cases cc with
  | digit => simp [CC.matches, hT.digit_ascii t ht, asciiTables]
  | range lo hi => rfl
  | exact e => rfl
  | ci e => cases hcc

/-- On a piece of ASCII characters followed by anything, an alternative of uncased classes does what it does on the piece
alone under the ASCII tables (one longer than the piece fails), provided the class it has just after the piece, if any, is
numeric and then no digit follows the piece. -/
theorem matchAlt_piece (hT : TablesOk T) (alt : List CC) (p rest : Str) (halt : alt.all CC.nonCi = true)
    (hp : p.all isAscii = true)
    (hnum : (alt.getD p.length .digit).numeric = true) (hb : p.length < alt.length → BoundaryOk T rest) :
    matchAlt T alt (p ++ rest) = (matchAlt asciiTables alt p).map fun (m, r) => (m, r ++ rest) := by
  induction alt generalizing p with
  | nil => rfl
  | cons cc ccs ih =>
    simp only [List.all_cons, Bool.and_eq_true] at halt
    cases p with
    | nil =>
      cases rest with
      | nil => rfl
      | cons h r => simp [matchAlt, numeric_not_matches hT cc h hnum (hb (Nat.succ_pos _) h rfl)]
    | cons t p' =>
      simp only [List.all_cons, Bool.and_eq_true] at hp
      simp only [List.cons_append, matchAlt, cc_matches_ascii hT cc t halt.1 hp.1,
        ih p' halt.2 hp.2 hnum fun h => hb (Nat.succ_lt_succ h)]
      split
      · cases matchAlt asciiTables ccs p' <;> rfl
      · rfl

/-- the alternatives consist of digit classes and uncased literals, and an alternative longer than `n` has a digit class
at position `n` (the default of `getD` is one) -/
def altsOkFor (n : Nat) (alts : List (List CC)) : Bool :=
  alts.all fun alt => alt.all CC.nonCi && (alt.getD n .digit).numeric

theorem firstLocal_numeric (hT : TablesOk T) (alts : List (List CC)) (p rest : Str)
    (hp : p.all isAscii = true) (ha : altsOkFor p.length alts = true)
    (hb : (∃ alt ∈ alts, p.length < alt.length) → BoundaryOk T rest) :
    firstLocal T alts (p ++ rest) = (firstLocal asciiTables alts p).map fun (m, r) => (m, r ++ rest) := by
  unfold firstLocal
  induction alts with
  | nil => rfl
  | cons alt as ih =>
    simp only [altsOkFor, List.all_cons, Bool.and_eq_true] at ha
    obtain ⟨⟨hci, hnum⟩, has⟩ := ha
    have ih' := ih has fun ⟨a, hm, hl⟩ => hb ⟨a, List.mem_cons_of_mem _ hm, hl⟩
    simp only [firstSome]
    rw [matchAlt_piece hT alt p rest hci hp hnum fun hl => hb ⟨alt, List.mem_cons_self .., hl⟩]
    cases matchAlt asciiTables alt p with
    | none => simpa using ih'
    | some mr => simp

/-- the alternatives of the directive `%k` -/
def dirAlts (k : Char) : List (List CC) :=
  match directive k with
  | .group a => a
  | _ => []

/-- the values `strftime` writes for `%k` -/
def valsOf (k : Char) : List Nat :=
  if k = 'd' then List.range' 1 31 else if k = 'm' then List.range' 1 12 else if k = 'H' then List.range 24 else List.range 60

/-- everything the proof needs to know about `%k`, as one decidable fact: the shape of its alternatives, and that every value
`strftime` writes is taken whole by the first alternative that matches it - in two digits, and below 10 in one -/
def numFact (k : Char) : Bool :=
  altsOkFor 2 (dirAlts k) && altsOkFor 1 (dirAlts k) && (dirAlts k).all (fun alt => decide (alt.length ≤ 2)) &&
  (valsOf k).all fun v =>
    firstLocal asciiTables (dirAlts k) (pad2 v) == some (pad2 v, []) &&
      (decide (10 ≤ v) || firstLocal asciiTables (dirAlts k) [digitChar v] == some ([digitChar v], []))

theorem numFact_all : ['m', 'd', 'H', 'M', 'S'].all numFact = true := by decide +kernel

theorem firstLocal_num2 (hT : TablesOk T) (k : Char) (hk : numericVar k = true) (sp : Spell) (v : Nat)
    (hv : v ∈ valsOf k) (rest : Str) (hb : sp.unpad = true → BoundaryOk T rest) :
    firstLocal T (dirAlts k) (num2 sp v ++ rest) = some (num2 sp v, rest) := by
  have hk' : k ∈ ['m', 'd', 'H', 'M', 'S'] := by simpa [numericVar, or_assoc] using hk
  have hf := List.all_eq_true.mp numFact_all k hk'
  simp only [numFact, Bool.and_eq_true] at hf
  obtain ⟨⟨⟨h2, h1⟩, hall⟩, hvals⟩ := hf
  have hval := List.all_eq_true.mp hvals v hv
  simp only [Bool.and_eq_true, Bool.or_eq_true, decide_eq_true_eq, beq_iff_eq] at hval
  obtain ⟨hp2, hp1⟩ := hval
  unfold num2
  split
  · rename_i hc
    rw [firstLocal_numeric hT (dirAlts k) [digitChar v] rest (by simp [digitChar_ascii hc.2]) h1
      fun _ => hb hc.1]
    rcases hp1 with h | h
    · exact absurd hc.2 (Nat.not_lt.mpr h)
    · rw [h]; rfl
  · rw [firstLocal_numeric hT (dirAlts k) (pad2 v) rest (by simp [pad2, digitChar_ascii, mod10_lt]) h2
      fun ⟨alt, hm, hl⟩ => absurd hl (Nat.not_lt.mpr (of_decide_eq_true (List.all_eq_true.mp hall alt hm))), hp2]; rfl

theorem matchAlt_digits (hT : TablesOk T) (ds : List Nat) (hds : ∀ d ∈ ds, d < 10) (rest : Str) :
    matchAlt T (List.replicate ds.length .digit) (ds.map digitChar ++ rest) = some (ds.map digitChar, rest) := by
  induction ds with
  | nil => rfl
  | cons d ds ih =>
    simp only [List.length_cons, List.replicate_succ, List.map_cons, List.cons_append, matchAlt, CC.matches,
      hT.digitVal_digitChar (hds d (List.mem_cons_self ..)), Option.isSome_some, if_true,
      ih (fun d' h => hds d' (List.mem_cons_of_mem _ h)), Option.map_some]

theorem firstLocal_numeral (hT : TablesOk T) {s : Str} {v : Nat} (h : Numeral s v) (rest : Str) :
    firstLocal T [List.replicate s.length .digit] (s ++ rest) = some (s, rest) := by
  obtain ⟨ds, -, hds, rfl, -⟩ := h
  simp only [firstLocal, firstSome, List.length_map, matchAlt_digits hT ds hds rest]

/-- ASCII and already lower case, as the name alternatives of `%b` and `%B` are -/
def isLowerAscii (s : Str) : Bool := s.all fun c => isAscii c && asciiLower c == c

/-- the two texts differ at a position both have -/
def differ : Str → Str → Bool
  | a :: as, b :: bs => a != b || differ as bs
  | _, _ => false

theorem matchAlt_ci (hT : TablesOk T) (alt name w rest : Str) (halt : isLowerAscii alt = true)
    (hw1 : w.map asciiLower = name) (hw2 : w.all isAscii = true) (hd : alt = name ∨ differ alt name = true) :
    matchAlt T (alt.map CC.ci) (w ++ rest) = if alt = name then some (w, rest) else none := by
  subst hw1
  induction alt generalizing w with
  | nil =>
    cases w with
    | nil => rfl
    | cons t w' => simp [differ] at hd
  | cons a as ih =>
    cases w with
    | nil => simp [differ] at hd
    | cons t w' =>
      simp only [isLowerAscii, List.all_cons, Bool.and_eq_true, beq_iff_eq] at halt hw2
      obtain ⟨⟨ha, hlow⟩, has⟩ := halt
      obtain ⟨ht, hw'⟩ := hw2
      simp only [List.map_cons, List.cons.injEq, differ, Bool.or_eq_true, bne_iff_ne, ne_eq] at hd
      have hc : T.ciMatch a t = (a == asciiLower t) := by
        rw [hT.ci_ascii _ _ ha ht, hlow]
      simp only [List.map_cons, List.cons_append, matchAlt, CC.matches, hc, List.cons.injEq]
      by_cases hab : a = asciiLower t
      · have hd' : as = w'.map asciiLower ∨ differ as (w'.map asciiLower) = true :=
          hd.imp And.right fun h => h.resolve_left (· hab)
        simp only [hab, beq_self_eq_true, if_true, true_and,
          ih w' has hw' hd']
        split <;> rfl
      · simp [hab]

/-- going through the alternatives in order, everything before `name` differs from it within its own length -/
def firstIsName : List Str → Str → Bool
  | [], _ => false
  | a :: as, name => if a = name then true else differ a name && firstIsName as name

theorem firstLocal_name (hT : TablesOk T) {sorted : List Str} {name w : Str} (rest : Str)
    (hs : sorted.all isLowerAscii = true) (hf : firstIsName sorted name = true)
    (hw1 : w.map asciiLower = name) (hw2 : w.all isAscii = true) :
    firstLocal T (sorted.map fun n => n.map CC.ci) (w ++ rest) = some (w, rest) := by
  unfold firstLocal
  induction sorted with
  | nil => cases hf
  | cons a as ih =>
    simp only [List.all_cons, Bool.and_eq_true] at hs
    simp only [firstIsName] at hf
    simp only [List.map_cons, firstSome]
    by_cases ha : a = name
    · rw [matchAlt_ci hT a name w rest hs.1 hw1 hw2 (Or.inl ha), if_pos ha]
    · simp only [ha, if_false, Bool.and_eq_true] at hf
      rw [matchAlt_ci hT a name w rest hs.1 hw1 hw2 (Or.inr hf.1), if_neg ha]
      exact ih hs.2 hf.2

theorem nameOk_chars {w name : Str} (h : nameOk w name = true) :
    w.map asciiLower = name ∧ w ≠ [] ∧ ∀ c ∈ w, isAscii c = true ∧ isPySpace c = false ∧ Csv.digitVal? c = none := by
  simp only [nameOk, Bool.and_eq_true, beq_iff_eq, Bool.not_eq_true', List.isEmpty_eq_false_iff, List.all_eq_true,
    Option.isNone_iff_eq_none] at h
  obtain ⟨⟨hmap, hall⟩, hne⟩ := h
  exact ⟨hmap, hne, fun c hc => and_assoc.mp (hall c hc)⟩

theorem lowerStr_ascii (hT : TablesOk T) {w : Str} (hw : w.all isAscii = true) :
    lowerStr T w = w.map asciiLower := by
  induction w with
  | nil => rfl
  | cons c r ih =>
    simp only [List.all_cons, Bool.and_eq_true] at hw
    simp only [lowerStr, List.flatMap_cons, hT.lower_ascii c hw.1, List.map_cons, List.singleton_append] at ih ⊢
    rw [← ih hw.2]

/-- everything the proof needs to know about a table of names (lower case, as the directive's alternatives have them) and
the way `strftime` writes them, as one decidable fact -/
def nameFact (names caps : List Str) : Bool :=
  (sortByLenDesc names).all isLowerAscii &&
  (List.range names.length).all fun m =>
    firstIsName (sortByLenDesc names) (names.getD m []) && nameOk (caps.getD m []) (names.getD m []) &&
      indexFrom 1 (names.getD m []) names == some (m + 1)

theorem month_tables : nameFact aMonth aMonthCap = true ∧ nameFact fMonth fMonthCap = true := by decide +kernel

theorem name_written {names caps : List Str} (hf : nameFact names caps = true) (sp : Spell) {m : Nat} (hm : m < names.length)
    (hs : ∀ w, sp.name = some w → nameOk w (names.getD m []) = true) :
    nameOk (sp.name.getD (caps.getD m [])) (names.getD m []) = true := by
  cases hn : sp.name with
  | some w => exact hs w hn
  | none =>
    rw [nameFact, Bool.and_eq_true] at hf
    have := List.all_eq_true.mp hf.2 m (List.mem_range.mpr hm)
    simp only [Bool.and_eq_true] at this
    exact this.1.2

theorem name_piece (hT : TablesOk T) {names caps : List Str} (hf : nameFact names caps = true)
    {month : Nat} (h1 : 1 ≤ month) (hle : month ≤ names.length) {w : Str} (hw : nameOk w (names.getD (month - 1) []) = true) :
    (∀ rest, firstLocal T ((sortByLenDesc names).map fun n => n.map CC.ci) (w ++ rest) = some (w, rest)) ∧
    indexFrom 1 (lowerStr T w) names = some month := by
  rw [nameFact, Bool.and_eq_true] at hf
  have hm := List.all_eq_true.mp hf.2 (month - 1) (List.mem_range.mpr (by omega))
  simp only [Bool.and_eq_true, beq_iff_eq] at hm
  obtain ⟨⟨hfirst, -⟩, hidx⟩ := hm
  obtain ⟨hmap, -, hc⟩ := nameOk_chars hw
  have hasc : w.all isAscii = true := List.all_eq_true.mpr fun c h => (hc c h).1
  refine ⟨fun rest => firstLocal_name hT rest hf.1 hfirst hmap hasc, ?_⟩
  rw [lowerStr_ascii hT hasc, hmap, hidx, Nat.sub_add_cancel h1]

/-- the item is a white-space run (`\s+`) -/
def isSpaces : Item → Bool
  | .spaces _ => true
  | _ => false

/-- the pattern begins with a white-space run -/
def startsWithSpaces : List Item → Bool
  | it :: _ => isSpaces it
  | [] => false

/-- what `wellShaped` asks of one item on its own -/
def itemShape : Item → Bool
  | .lit c => !isPySpace c
  | .spaces run => !run.isEmpty && run.all isPySpace
  | .group k alts => alts == dirAlts k

/-- what `scan` produces: literals are not white space, white-space runs are non-empty, maximal (no two in a row) and
consist of white space, a group carries the alternatives of its directive -/
def wellShaped : List Item → Bool
  | [] => true
  | it :: is => itemShape it && !(isSpaces it && startsWithSpaces is) && wellShaped is

theorem scan_induction {P : Str → List Item → Prop} (nil : P [] [])
    (percent : ∀ k r is, directive k = .percent → P r is → P ('%' :: k :: r) (.lit '%' :: is))
    (group : ∀ k alts r is, directive k = .group alts → P r is → P ('%' :: k :: r) (.group k alts :: is))
    (space : ∀ c r is, isPySpace c = true → P r is → P (c :: r) (consSpace c is))
    (lit : ∀ c r is, c ≠ '%' → isPySpace c = false → P r is → P (c :: r) (.lit c :: is)) :
    ∀ fmt items, scan fmt = .ok items → P fmt items := by
  intro fmt items h
  fun_induction scan fmt generalizing items with
  | case1 => cases h; exact nil
  | case2 | case3 | case4 | case5 => cases h  -- the error exits of `scan`
  | case6 k r _ hd ih =>
    obtain ⟨is, his, rfl⟩ := Except.map_eq_ok h
    exact percent k r is hd (ih is his)
  | case7 k r _ alts hd ih =>
    obtain ⟨is, his, rfl⟩ := Except.map_eq_ok h
    exact group k alts r is hd (ih is his)
  | case8 c r hc hsp ih =>
    obtain ⟨is, his, rfl⟩ := Except.map_eq_ok h
    exact space c r is hsp (ih is his)
  | case9 c r hc hsp ih =>
    obtain ⟨is, his, rfl⟩ := Except.map_eq_ok h
    exact lit c r is hc (eq_false_of_ne_true hsp) (ih is his)

theorem scan_wellShaped (fmt : Str) : ∀ items, scan fmt = .ok items → wellShaped items = true := by
  refine scan_induction (P := fun _ items => wellShaped items = true) rfl ?_ ?_ ?_ ?_ fmt
  · intro k r is _ ih; exact ih  -- the goal is `ih` once `!isPySpace '%'`, the shape of `.lit '%'`, is evaluated
  · intro k alts r is hd ih
    have : dirAlts k = alts := by unfold dirAlts; rw [hd]
    simpa [wellShaped, itemShape, isSpaces, this] using ih
  · intro c r is hc ih
    -- `consSpace` extends a run at the front, and puts a new one only before something else: no two runs in a row
    cases is with
    | nil => simp [consSpace, wellShaped, itemShape, hc, isSpaces, startsWithSpaces]
    | cons it is => cases it <;> simp_all [consSpace, wellShaped, itemShape, isSpaces, startsWithSpaces]
  · intro c r is _ hc ih; simpa [wellShaped, itemShape, isSpaces, hc] using ih

/-- the pattern has no white-space run -/
def noSpacesItems (items : List Item) : Bool := items.all fun it => !isSpaces it

theorem scan_noSpaces (fmt : Str) (hfmt : fmt.all (fun c => !isPySpace c) = true) :
    ∀ items, scan fmt = .ok items → noSpacesItems items = true := by
  intro items h
  refine scan_induction (P := fun fmt items => fmt.all (fun c => !isPySpace c) = true → noSpacesItems items = true)
    (fun _ => rfl) ?_ ?_ ?_ ?_ fmt items h hfmt
  · intro k r is _ ih hall
    simp only [List.all_cons, Bool.and_eq_true] at hall
    exact ih hall.2.2
  · intro k alts r is _ ih hall
    simp only [List.all_cons, Bool.and_eq_true] at hall
    exact ih hall.2.2
  · intro c r is hc _ hall
    simp [hc] at hall
  · intro c r is _ _ ih hall
    simp only [List.all_cons, Bool.and_eq_true] at hall
    exact ih hall.2

/-- the fields are in the ranges `strftime` writes (true of every valid date-time) -/
def FieldsOk (t : DateTime) : Prop :=
  1 ≤ t.month ∧ t.month ≤ 12 ∧ 1 ≤ t.day ∧ t.day ≤ 31 ∧ t.hour ≤ 23 ∧ t.minute ≤ 59 ∧ t.second ≤ 59 ∧ t.year ≤ 9999

theorem daysInMonth_le (y m : Nat) : daysInMonth y m ≤ 31 := by
  unfold daysInMonth; split
  · split <;> omega
  · split <;> omega

theorem fieldsOk_of_valid (t : DateTime) (h : t.valid = true) : FieldsOk t := by
  simp only [DateTime.valid, validDate, Bool.and_eq_true, decide_eq_true_eq] at h
  have := daysInMonth_le t.year t.month
  unfold FieldsOk; omega

theorem renderable_cases {k : Char} (h : renderable k = true) :
    k = 'Y' ∨ k = 'y' ∨ k = 'm' ∨ k = 'd' ∨ k = 'b' ∨ k = 'B' ∨ k = 'H' ∨ k = 'M' ∨ k = 'S' := by
  simpa only [renderable, Bool.or_eq_true, beq_iff_eq, or_assoc] using h

theorem dirAlts_b : dirAlts 'b' = (sortByLenDesc aMonth).map fun n => n.map CC.ci := rfl
theorem dirAlts_B : dirAlts 'B' = (sortByLenDesc fMonth).map fun n => n.map CC.ci := rfl

section Rendered
variable {sps : List Spell} {fmt : Str} {items : List Item} {sp : Spell} {t : DateTime} {k : Char}
  {alts : List (List CC)} {next : List Item}

theorem month_name_ok (ht : FieldsOk t) (hs : spellOk T sp t (.group k alts) next = true) :
    (k = 'b' → nameOk (renderGroup sp t 'b') (aMonth.getD (t.month - 1) []) = true) ∧
    (k = 'B' → nameOk (renderGroup sp t 'B') (fMonth.getD (t.month - 1) []) = true) := by
  have hm : t.month - 1 < 12 := by unfold FieldsOk at ht; omega
  constructor
  · rintro rfl; exact name_written month_tables.1 sp hm fun w hn => by simpa [spellOk, hn, numericVar] using hs
  · rintro rfl; exact name_written month_tables.2 sp hm fun w hn => by simpa [spellOk, hn, numericVar] using hs

theorem month_piece (hT : TablesOk T) (ht : FieldsOk t) (hs : spellOk T sp t (.group k alts) next = true) :
    (k = 'b' → (∀ rest, firstLocal T (dirAlts 'b') (renderGroup sp t 'b' ++ rest) = some (renderGroup sp t 'b', rest)) ∧
      indexFrom 1 (lowerStr T (renderGroup sp t 'b')) aMonth = some t.month) ∧
    (k = 'B' → (∀ rest, firstLocal T (dirAlts 'B') (renderGroup sp t 'B' ++ rest) = some (renderGroup sp t 'B', rest)) ∧
      indexFrom 1 (lowerStr T (renderGroup sp t 'B')) fMonth = some t.month) := by
  have ⟨h1, h12, _⟩ := ht
  rw [dirAlts_b, dirAlts_B]
  exact ⟨fun hk => name_piece hT month_tables.1 h1 h12 ((month_name_ok ht hs).1 hk),
    fun hk => name_piece hT month_tables.2 h1 h12 ((month_name_ok ht hs).2 hk)⟩

theorem renderGroup_numerals (sp : Spell) (ht : FieldsOk t) :
    Numeral (renderGroup sp t 'Y') t.year ∧ Numeral (renderGroup sp t 'y') (t.year % 100) ∧
    Numeral (renderGroup sp t 'm') t.month ∧ Numeral (renderGroup sp t 'd') t.day ∧ Numeral (renderGroup sp t 'H') t.hour ∧
    Numeral (renderGroup sp t 'M') t.minute ∧ Numeral (renderGroup sp t 'S') t.second := by
  obtain ⟨-, hm, -, hd, hH, hM, hS, hY⟩ := ht
  exact ⟨numeral_pad4 (Nat.lt_succ_of_le hY), numeral_pad2 (Nat.mod_lt _ (by decide)),
    numeral_num2 sp (Nat.lt_of_le_of_lt hm (by decide)), numeral_num2 sp (Nat.lt_of_le_of_lt hd (by decide)),
    numeral_num2 sp (Nat.lt_of_le_of_lt hH (by decide)), numeral_num2 sp (Nat.lt_of_le_of_lt hM (by decide)),
    numeral_num2 sp (Nat.lt_of_le_of_lt hS (by decide))⟩

theorem piece_chars (ht : FieldsOk t) (hk : renderable k = true) (hs : spellOk T sp t (.group k alts) next = true) :
    renderGroup sp t k ≠ [] ∧
      ∀ c ∈ renderGroup sp t k, isPySpace c = false ∧
        (TablesOk T → nextNonDigit T (.group k alts :: next) = true → T.digitVal c = none) := by
  suffices h : (∃ v, Numeral (renderGroup sp t k) v ∧ nextNonDigit T (.group k alts :: next) = false) ∨
      ∃ name, nameOk (renderGroup sp t k) name = true by
    rcases h with ⟨v, hv, hn⟩ | ⟨name, hn⟩
    · exact ⟨hv.ne_nil, fun c hm => ⟨hv.noSpace c hm, fun _ h => nomatch hn.symm.trans h⟩⟩
    · obtain ⟨-, hne, hc⟩ := nameOk_chars hn
      refine ⟨hne, fun c hm => ?_⟩
      obtain ⟨hasc, hsp, hdig⟩ := hc c hm
      exact ⟨hsp, fun hT _ => by rw [hT.digit_ascii c hasc]; exact hdig⟩
  obtain ⟨nY, ny, nm, nd, nH, nM, nS⟩ := renderGroup_numerals sp ht
  rcases renderable_cases hk with rfl | rfl | rfl | rfl | rfl | rfl | rfl | rfl | rfl
  · exact .inl ⟨_, nY, rfl⟩
  · exact .inl ⟨_, ny, rfl⟩
  · exact .inl ⟨_, nm, rfl⟩
  · exact .inl ⟨_, nd, rfl⟩
  · exact .inr ⟨_, (month_name_ok ht hs).1 rfl⟩
  · exact .inr ⟨_, (month_name_ok ht hs).2 rfl⟩
  · exact .inl ⟨_, nH, rfl⟩
  · exact .inl ⟨_, nM, rfl⟩
  · exact .inl ⟨_, nS, rfl⟩

theorem piece_group (hT : TablesOk T) (rest : Str) (ht : FieldsOk t) (hk : renderable k = true) (hshape : alts = dirAlts k)
    (hs : spellOk T sp t (.group k alts) next = true) (hrest : nextNonDigit T next = true → BoundaryOk T rest) :
    firstLocal T alts (renderGroup sp t k ++ rest) = some (renderGroup sp t k, rest) := by
  subst hshape
  have ⟨rm, rd, rH, rM, rS⟩ : t.month ∈ valsOf 'm' ∧ t.day ∈ valsOf 'd' ∧ t.hour ∈ valsOf 'H' ∧ t.minute ∈ valsOf 'M' ∧
      t.second ∈ valsOf 'S' := by
    unfold FieldsOk at ht
    simp [valsOf]; omega
  have hb : numericVar k = true → sp.unpad = true → BoundaryOk T rest := by
    intro hk' hu
    simp only [spellOk, hu, hk', Bool.and_self, if_true, Bool.and_eq_true] at hs
    exact hrest hs.1
  obtain ⟨nY, ny, -⟩ := renderGroup_numerals sp ht
  rcases renderable_cases hk with rfl | rfl | rfl | rfl | rfl | rfl | rfl | rfl | rfl
  · exact firstLocal_numeral hT nY rest
  · exact firstLocal_numeral hT ny rest
  · exact firstLocal_num2 hT 'm' rfl sp t.month rm rest (hb rfl)
  · exact firstLocal_num2 hT 'd' rfl sp t.day rd rest (hb rfl)
  · exact ((month_piece hT ht hs).1 rfl).1 rest
  · exact ((month_piece hT ht hs).2 rfl).1 rest
  · exact firstLocal_num2 hT 'H' rfl sp t.hour rH rest (hb rfl)
  · exact firstLocal_num2 hT 'M' rfl sp t.minute rM rest (hb rfl)
  · exact firstLocal_num2 hT 'S' rfl sp t.second rS rest (hb rfl)

theorem renderItem_chars {it : Item} (ht : FieldsOk t) (hshape : itemShape it = true)
    (hk : ∀ k alts, it = .group k alts → renderable k = true)
    (hs : spellOk T sp t it next = true) :
    renderItem sp t it ≠ [] ∧ ∀ c ∈ renderItem sp t it,
      isPySpace c = isSpaces it ∧ (TablesOk T → nextNonDigit T (it :: next) = true → T.digitVal c = none) := by
  cases it with
  | lit c =>
    refine ⟨List.cons_ne_nil _ _, fun x hx => ?_⟩
    cases List.mem_singleton.mp hx
    exact ⟨by simpa [itemShape, isSpaces] using hshape, fun _ h => by simpa [nextNonDigit] using h⟩
  | spaces run =>
    have ⟨hne, hall⟩ : sp.blanks.getD run ≠ [] ∧ ∀ c ∈ sp.blanks.getD run, isPySpace c = true := by
      cases hb : sp.blanks with
      | none => simpa [itemShape] using hshape
      | some ws => simpa [spellOk, hb] using hs
    exact ⟨hne, fun c hc => ⟨hall c hc, fun hT _ => hT.space_not_digit c (hall c hc)⟩⟩
  | group k alts =>
    exact piece_chars ht (hk k alts rfl) hs

/-- the hypotheses the lemmas about the written text share: a pattern as `scan` produces it, over the directives `strftime`
writes, with a spelling `strptime` accepts for every item -/
structure Spelled (T : Tables) (sps : List Spell) (items : List Item) (t : DateTime) : Prop where
  fields : FieldsOk t
  shape : wellShaped items = true
  renderable : (groupNames items).all renderable = true
  spells : spellsOk T sps items t = true

theorem Spelled.tail {it : Item} {is : List Item} (h : Spelled T sps (it :: is) t) : Spelled T sps.tail is t := by
  obtain ⟨ht, hw, hr, hs⟩ := h
  simp only [wellShaped, spellsOk, Bool.and_eq_true] at hw hs
  refine ⟨ht, hw.2, ?_, hs.2⟩
  cases it with
  | group k alts => rw [groupNames, List.all_cons, Bool.and_eq_true] at hr; exact hr.2
  | lit _ | spaces _ => exact hr

theorem Spelled.group_renderable {k : Char} {alts : List (List CC)} {is : List Item}
    (h : Spelled T sps (.group k alts :: is) t) : Strptime.renderable k = true := by
  have := h.renderable
  simp only [groupNames, List.all_cons, Bool.and_eq_true] at this; exact this.1

/-- what `Spelled` says of its first item `it`, spelled `sp` and followed by `next`, and of the piece written for it.
`TablesOk T` is asked only where digits come in, so that what is said of white space holds for any tables. -/
structure PieceOk (T : Tables) (sp : Spell) (t : DateTime) (it : Item) (next : List Item) : Prop where
  shape : itemShape it = true
  maximal : isSpaces it = true → startsWithSpaces next = false
  spell : spellOk T sp t it next = true
  ne_nil : renderItem sp t it ≠ []
  chars : ∀ c ∈ renderItem sp t it,
    isPySpace c = isSpaces it ∧ (TablesOk T → nextNonDigit T (it :: next) = true → T.digitVal c = none)

theorem Spelled.head {it : Item} {is : List Item} (h : Spelled T sps (it :: is) t) : PieceOk T (sps.headD {}) t it is := by
  have hw := h.shape
  have hs := h.spells
  simp only [wellShaped, spellsOk, Bool.and_eq_true, Bool.not_eq_true', Bool.and_eq_false_imp] at hw hs
  obtain ⟨⟨hshape, hmax⟩, -⟩ := hw
  obtain ⟨hne, hch⟩ := renderItem_chars h.fields hshape (fun k alts e => by subst e; exact h.group_renderable) hs.1
  exact ⟨hshape, hmax, hs.1, hne, hch⟩

theorem Spelled.render_ne_nil {it : Item} {is : List Item} (h : Spelled T sps (it :: is) t) :
    renderItems sps (it :: is) t ≠ [] :=
  fun e => h.head.ne_nil (List.append_eq_nil_iff.mp e).1

theorem Spelled.head_char (h : Spelled T sps items t) (c : Char) (hc : (renderItems sps items t).head? = some c) :
    (startsWithSpaces items = false → isPySpace c = false) ∧
      (TablesOk T → nextNonDigit T items = true → T.digitVal c = none) := by
  cases items with
  | nil => cases hc
  | cons it is =>
    obtain ⟨c', r', hp⟩ := List.exists_cons_of_ne_nil h.head.ne_nil
    rw [renderItems, hp] at hc
    cases hc
    have := h.head.chars c (by rw [hp]; exact List.mem_cons_self ..)
    exact ⟨this.1.trans, this.2⟩

theorem spaceRun_append {ws rest : Str} (hws : ws.all isPySpace = true)
    (hrest : ∀ c, rest.head? = some c → isPySpace c = false) : spaceRun (ws ++ rest) = ws.length := by
  induction ws with
  | nil =>
    cases rest with
    | nil => rfl
    | cons c r => simp [spaceRun, hrest c rfl]
  | cons w ws ih =>
    simp only [List.all_cons, Bool.and_eq_true] at hws
    simp [spaceRun, hws.1, ih hws.2]

/-- the captured groups of the written text, in group order -/
def capsOf : List Spell → List Item → DateTime → Caps
  | _, [], _ => []
  | sps, .group k _ :: is, t => (k, renderGroup (sps.headD {}) t k) :: capsOf sps.tail is t
  | sps, _ :: is, t => capsOf sps.tail is t

theorem matchItems_render (hT : TablesOk T) :
    ∀ (items : List Item) (sps : List Spell), Spelled T sps items t →
      matchItems T items (renderItems sps items t) = some (capsOf sps items t, []) := by
  intro items
  induction items with
  | nil => intro sps _; rfl
  | cons it is ih =>
    intro sps h
    have hd := h.head
    have IH := ih sps.tail h.tail
    have hrest := h.tail.head_char
    cases it with
    | lit c =>
      simp only [renderItems, renderItem, List.singleton_append, matchItems, hT.ci_refl c, if_true, capsOf]
      exact IH
    | spaces run =>
      have hall : ((sps.headD {}).blanks.getD run).all isPySpace = true :=
        List.all_eq_true.mpr fun c hc => (hd.chars c hc).1
      have hrun := spaceRun_append hall fun c hc => (hrest c hc).1 (hd.maximal rfl)
      simp only [renderItems, renderItem, matchItems, capsOf, hrun]
      cases hl : ((sps.headD {}).blanks.getD run).length with
      | zero => exact absurd (List.length_eq_zero_iff.mp hl) hd.ne_nil
      | succ n =>
        -- the first try, the whole run, succeeds
        simp only [tryDown]
        rw [← hl, List.drop_left, IH]
    | group k alts =>
      have hfl := piece_group hT (renderItems sps.tail is t) h.fields h.group_renderable
        (eq_of_beq hd.shape) hd.spell (fun hn c hc => (hrest c hc).2 hT hn)
      simp only [renderItems, renderItem, capsOf]
      exact matchItems_group_of_firstLocal hfl IH

theorem render_no_space :
    ∀ (items : List Item) (sps : List Spell), Spelled T sps items t → noSpacesItems items = true →
      NoSpace (renderItems sps items t) := by
  intro items
  induction items with
  | nil => intro _ _ _ c hc; cases hc
  | cons it is ih =>
    intro sps h hn c hc
    simp only [noSpacesItems, List.all_cons, Bool.and_eq_true, Bool.not_eq_true'] at hn
    rcases List.mem_append.mp hc with hc | hc
    · rw [(h.head.chars c hc).1, hn.1]
    · exact ih sps.tail h.tail hn.2 c hc

/-- the pattern does not end in a white-space run -/
def lastNotSpaces (items : List Item) : Bool :=
  match items.getLast? with
  | some it => !isSpaces it
  | none => true

theorem render_last :
    ∀ (items : List Item) (sps : List Spell), Spelled T sps items t → lastNotSpaces items = true →
      ∀ c, (renderItems sps items t).getLast? = some c → isPySpace c = false := by
  intro items
  induction items with
  | nil => intro _ _ _ c hc; cases hc
  | cons it is ih =>
    intro sps h hl c hc
    cases is with
    | nil =>
      rw [show renderItems sps [it] t = renderItem (sps.headD {}) t it from List.append_nil _] at hc
      rw [(h.head.chars c (List.mem_of_getLast? hc)).1]
      simpa [lastNotSpaces] using hl
    | cons it' is' =>
      -- the text of the rest is not empty, so the last character is its last
      have hne := h.tail.render_ne_nil
      rw [renderItems, List.getLast?_append, List.getLast?_eq_some_getLast hne, Option.some_or] at hc
      exact ih sps.tail h.tail hl c ((List.getLast?_eq_some_getLast hne).trans hc)

theorem compile_ok_scan (h : compile fmt = .ok items) :
    scan fmt = .ok items ∧ hasDup (groupNames items) = false := by
  unfold compile at h
  split at h
  · cases h
  · rename_i its hs
    split at h
    · cases h
    · rename_i hd
      cases h
      exact ⟨hs, eq_false_of_ne_true hd⟩

/-- `FmtOk fmt`, `t.valid` and `SpellsOk T sps fmt t`, unfolded once: the compiled items and what the written text is -/
structure Written (T : Tables) (sps : List Spell) (fmt : Str) (t : DateTime) (items : List Item) : Prop where
  compile : compile fmt = .ok items
  names : namesOk (groupNames items) = true
  text : strftimeWith sps fmt t = renderItems sps items t
  spelled : Spelled T sps items t

theorem Written.of_spellsOk (hf : FmtOk fmt = true) (hv : t.valid = true) (hs : SpellsOk T sps fmt t = true) :
    ∃ items, Written T sps fmt t items := by
  unfold FmtOk at hf; unfold SpellsOk at hs
  cases hc : Strptime.compile fmt with
  | error e => simp [hc] at hf
  | ok items =>
    simp only [hc] at hf hs
    have hr := hf
    simp only [namesOk, Bool.and_eq_true] at hr
    exact ⟨items, hc, hf, by simp only [strftimeWith, hc],
      fieldsOk_of_valid t hv, scan_wellShaped fmt items (compile_ok_scan hc).1, hr.1.1.1, hs⟩

theorem Written.ne_nil (w : Written T sps fmt t items) : strftimeWith sps fmt t ≠ [] := by
  rw [w.text]
  cases items with
  | nil => have := w.names; simp [namesOk, groupNames] at this
  | cons it is => exact w.spelled.render_ne_nil

theorem Written.noSpace (w : Written T sps fmt t items) (hfmt : fmt.all (fun c => !isPySpace c) = true) :
    NoSpace (strftimeWith sps fmt t) := by
  rw [w.text]
  exact render_no_space items sps w.spelled (scan_noSpaces fmt hfmt items (compile_ok_scan w.compile).1)

theorem Written.head_not_space (w : Written T sps fmt t items) (h : startsWithSpaces items = false) :
    ∀ c, (strftimeWith sps fmt t).head? = some c → isPySpace c = false := by
  rw [w.text]
  exact fun c hc => (w.spelled.head_char c hc).1 h

theorem Written.last_not_space (w : Written T sps fmt t items) (h : lastNotSpaces items = true) :
    ∀ c, (strftimeWith sps fmt t).getLast? = some c → isPySpace c = false := by
  rw [w.text]
  exact render_last items sps w.spelled h

/-- the accumulator of the conversion loop once the directives `has` have been seen -/
def accOf (has : Char → Bool) (t : DateTime) : Acc :=
  { year := if has 'Y' || has 'y' then some t.year else none
    month := if has 'm' || has 'b' || has 'B' then t.month else 1
    day := if has 'd' then t.day else 1
    hour := if has 'H' then t.hour else 0
    minute := if has 'M' then t.minute else 0
    second := if has 'S' then t.second else 0 }

theorem intOr_ok {s : Str} {n : Nat} (h : pyInt T s = some n) : intOr T s = .ok n := by
  simp [intOr, h]

theorem convertOne_piece (hT : TablesOk T) (all : Caps) {has : Char → Bool} (ht : FieldsOk t) (hk : renderable k = true)
    (hs : spellOk T sp t (.group k alts) next = true) (hy : k = 'y' → 1969 ≤ t.year ∧ t.year ≤ 2068) :
    convertOne T all (accOf has t) k (renderGroup sp t k) = .ok (accOf (fun c => has c || c == k) t) := by
  obtain ⟨nY, ny, nm, nd, nH, nM, nS⟩ := renderGroup_numerals sp ht
  rcases renderable_cases hk with rfl | rfl | rfl | rfl | rfl | rfl | rfl | rfl | rfl
  · simp [convertOne, accOf, intOr_ok (nY.pyInt hT), Except.map]
  · have h := hy rfl
    have : (if t.year % 100 ≤ 68 then t.year % 100 + 2000 else t.year % 100 + 1900) = t.year := by split <;> omega
    simp [convertOne, accOf, intOr_ok (ny.pyInt hT), Except.map, this]
  · simp [convertOne, accOf, intOr_ok (nm.pyInt hT), Except.map]
  · simp [convertOne, accOf, intOr_ok (nd.pyInt hT), Except.map]
  · simp [convertOne, accOf, ((month_piece hT ht hs).1 rfl).2]
  · simp [convertOne, accOf, ((month_piece hT ht hs).2 rfl).2]
  · simp [convertOne, accOf, intOr_ok (nH.pyInt hT), Except.map]
  · simp [convertOne, accOf, intOr_ok (nM.pyInt hT), Except.map]
  · simp [convertOne, accOf, intOr_ok (nS.pyInt hT), Except.map]

theorem convertGo_render (hT : TablesOk T) (all : Caps) :
    ∀ (items : List Item) (sps : List Spell) (has : Char → Bool), Spelled T sps items t →
      ('y' ∈ groupNames items → 1969 ≤ t.year ∧ t.year ≤ 2068) →
      convertGo T all (accOf has t) (capsOf sps items t) =
        .ok (accOf (fun c => has c || (groupNames items).contains c) t) := by
  intro items
  induction items with
  | nil => intro sps has _ _; simp [capsOf, convertGo, groupNames]
  | cons it is ih =>
    intro sps has h hy
    cases it with
    | lit c | spaces run => exact ih sps.tail has h.tail hy
    | group k alts =>
      simp only [capsOf, convertGo, convertOne_piece hT all h.fields h.group_renderable
        h.head.spell fun e => hy (e ▸ List.mem_cons_self ..)]
      rw [ih sps.tail _ h.tail fun hm => hy (List.mem_cons_of_mem _ hm)]
      congr 2
      funext c
      simp only [groupNames, List.contains_cons, Bool.or_assoc]

end Rendered

theorem finish_accOf {ns : List Char} {t : DateTime} (hv : t.valid = true) (hn : namesOk ns = true) :
    finish (accOf (fun c => ns.contains c) t) = .ok (restrict ns t) := by
  simp only [namesOk, Bool.and_eq_true] at hn
  obtain ⟨⟨⟨-, hY⟩, hM⟩, hD⟩ := hn
  simp only [DateTime.valid, Bool.and_eq_true, decide_eq_true_eq] at hv
  obtain ⟨⟨⟨⟨hvd, hH⟩, hMi⟩, hS⟩, -⟩ := hv
  have hval : (restrict ns t).valid = true := by
    simp only [restrict, DateTime.valid, hvd, Bool.true_and, Bool.and_eq_true, decide_eq_true_eq, Nat.zero_le, and_true]
    refine ⟨⟨?_, ?_⟩, ?_⟩ <;> split <;> simp [hH, hMi, hS]
  -- year, month and day were all read: no default, no 29 February fix, no `%j`
  simp only [finish, yearOf, leapFixOf, ymdOf, accOf, hY, hM, hD, if_true, Option.isNone_some, Bool.false_and, hvd, checked]
  exact if_pos hval

theorem yearFits_iff {ns : List Char} {t : DateTime} :
    yearFits ns t = true ↔ ('y' ∈ ns → 1969 ≤ t.year ∧ t.year ≤ 2068) := by
  unfold yearFits
  split
  · rename_i h
    simp only [Bool.and_eq_true, decide_eq_true_eq]
    exact ⟨fun hy _ => hy, fun hy => hy (List.contains_iff_mem.mp h)⟩
  · rename_i h
    exact ⟨fun _ hc => absurd (List.contains_iff_mem.mpr hc) h, fun _ => rfl⟩

theorem strptime_of_items {fmt : Str} {items : List Item} {sps : List Spell} {t : DateTime} (hT : TablesOk T)
    (w : Written T sps fmt t items) (hv : t.valid = true) (hy : yearFits (groupNames items) t = true) :
    strptime T fmt (strftimeWith sps fmt t) = .ok (restrict (groupNames items) t) := by
  have hconv := convertGo_render hT (capsOf sps items t) items sps (fun _ => false) w.spelled (yearFits_iff.mp hy)
  simp only [Bool.false_or] at hconv
  simp only [strptime, w.text, w.compile, matchItems_render hT items sps w.spelled, convert,
    show ({} : Acc) = accOf (fun _ => false) t from rfl, hconv, finish_accOf hv w.names, ne_eq, not_true_eq_false, if_false]

/-- `strftime` itself, with no spelling given, writes one that `strptime` accepts -/
theorem spellsOk_nil (T : Tables) (items : List Item) (t : DateTime) : spellsOk T [] items t = true := by
  induction items with
  | nil => rfl
  | cons it is ih =>
    simp only [spellsOk, List.tail_nil, ih, Bool.and_true]
    cases it <;> simp [spellOk]

end RoundTrip

section Outcomes

theorem checked_ok {x t : DateTime} (h : checked x = .ok t) : t.valid = true := by
  unfold checked at h
  split at h
  · cases h; assumption
  · cases h

theorem finish_valid (a : Acc) (t : DateTime) (h : finish a = .ok t) : t.valid = true := by
  unfold finish at h
  split at h
  · cases h
  · exact checked_ok h

theorem strptime_ok_parts {fmt s : Str} {t : DateTime} (h : strptime T fmt s = .ok t) :
    ∃ items caps a, compile fmt = .ok items ∧ matchItems T items s = some (caps, []) ∧ convert T caps = .ok a ∧
      finish a = .ok t := by
  unfold strptime at h
  split at h
  · cases h
  · rename_i items hc
    split at h
    · cases h
    · rename_i caps rest hm
      split at h
      · cases h
      · rename_i hrest
        split at h
        · cases h
        · rename_i a ha
          cases Decidable.of_not_not hrest
          exact ⟨items, caps, a, hc, hm, ha, h⟩

theorem intOr_map_err {v : Str} {f : Nat → Acc} {e : StrpErr} (h : (intOr T v).map f = .error e) :
    e = .outOfRange := by
  unfold intOr at h
  split at h
  · simp [Except.map] at h
  · simp [Except.map] at h; exact h.symm

theorem convertOne_err {all : Caps} {a : Acc} {k : Char} {v : Str} {e : StrpErr}
    (h : convertOne T all a k v = .error e) : e = .outOfRange ∨ e = .notInList := by
  unfold convertOne at h
  split at h
  -- every directive is of one of three kinds
  all_goals first
    | exact Or.inl (intOr_map_err h)      -- a number: `int()` failed
    | (split at h                         -- a name, looked up in its table
       · cases h
       · cases h; exact Or.inr rfl)
    | cases h                             -- `%p`: nothing to convert

theorem convertGo_err {all caps : Caps} {a : Acc} {e : StrpErr} (h : convertGo T all a caps = .error e) :
    e = .outOfRange ∨ e = .notInList := by
  induction caps generalizing a with
  | nil => cases h
  | cons kv r ih =>
    obtain ⟨k, v⟩ := kv
    simp only [convertGo] at h
    split at h
    · rename_i e' he; cases h; exact convertOne_err he
    · exact ih h

theorem dateOfYday_err {y j : Nat} {e : StrpErr} (h : dateOfYday y j = .error e) : e = .outOfRange := by
  unfold dateOfYday at h
  split at h
  · split at h
    · cases h
    · cases h; rfl
  · split at h
    · cases h
    · split at h
      · cases h
      · cases h; rfl

theorem ymdOf_err {y : Nat} {a : Acc} {e : StrpErr} (h : ymdOf y a = .error e) : e = .outOfRange := by
  unfold ymdOf at h
  split at h
  · split at h
    · cases h
    · cases h; rfl
  · split at h
    · exact dateOfYday_err h
    · cases h; rfl

theorem checked_err {x : DateTime} {e : StrpErr} (h : checked x = .error e) : e = .outOfRange := by
  unfold checked at h
  split at h
  · cases h
  · cases h; rfl

theorem finish_err {a : Acc} {e : StrpErr} (h : finish a = .error e) : e = .outOfRange := by
  unfold finish at h
  split at h
  · rename_i e' he; cases h; exact ymdOf_err he
  · exact checked_err h

theorem strptime_err_of_compile_ok {fmt s : Str} {items : List Item} {e : StrpErr}
    (hc : compile fmt = .ok items) (h : strptime T fmt s = .error e) : e.toDateErr = .valueError := by
  unfold strptime at h
  rw [hc] at h
  dsimp only at h
  split at h
  · cases h; rfl
  · split at h
    · cases h; rfl
    · split at h
      · rename_i e' he
        cases h
        rcases convertGo_err he with rfl | rfl <;> rfl
      · rw [finish_err h]; rfl

theorem strptime_err_of_compile_err {fmt s : Str} {e : StrpErr} (hc : compile fmt = .error e) :
    strptime T fmt s = .error e := by
  unfold strptime; rw [hc]

end Outcomes

theorem asciiTables_ok : TablesOk asciiTables where
  digit_ascii _ _ := rfl
  ci_ascii _ _ _ _ := rfl
  ci_refl c := by simp [asciiTables]
  space_not_digit c h := by
    have := Csv.isPySpace_range h
    simp only [asciiTables, Csv.digitVal?]
    split
    · rename_i hd
      simp only [Bool.and_eq_true, decide_eq_true_eq] at hd
      omega
    · rfl
  lower_ascii _ _ := rfl

end TallyVerif.Strptime
