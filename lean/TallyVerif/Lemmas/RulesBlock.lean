import TallyVerif.Lemmas.RulesFile
/-! A rule block as tally writes it (`discover`'s suggestion, the CSV migration) is read back by the rules parser as the rule
data made of its parts (`run_block`): the statement both C14 and C19 rest on. -/

namespace TallyVerif.RulesFile

theorem step_header {ve : Str → Bool} {st st1 : MState} (n : Nat) {name : Str} (hne : (strip name).isEmpty = false)
    (hclose : closeCur ve st = .ok st1) :
    step ve st n ('[' :: name ++ [']']) = .ok { st1 with cur := some { name := strip name }, startLine := n } := by
  have hs : strip ('[' :: name ++ [']']) = '[' :: name ++ [']'] :=
    strip_eq_self (fun c h => by cases h; decide)
      (fun c h => by rw [List.getLast?_concat (l := '[' :: name)] at h; cases h; decide)
  rw [step, hs, stepS_bracket, hclose, Except.bind, hne]
  rfl

/-- `key` can start a property line for `k`: no white space in front, not a comment, not a header, no colon
inside, and it is a spelling of `k` -/
def keyOk (key : Str) (k : PropKey) : Bool :=
  match key with
  | c :: _ => !isSpace c && c != '#' && c != '[' && !key.contains ':' && propKey? (lower (strip key)) == some k
  | [] => false

theorem step_prop {ve : Str → Bool} {st : MState} {n : Nat} {d : RuleData} {key rest : Str} {k : PropKey}
    (hcur : st.cur = some d) (hkey : keyOk key k = true) :
    step ve st n (key ++ ':' :: rest) =
      match applyProp k (strip rest) d with
      | .ok d' => .ok { st with cur := some d' }
      | .error e => .error (n, e) := by
  cases key with
  | nil => cases hkey
  | cons c t =>
    simp only [keyOk, Bool.and_eq_true, Bool.not_eq_true', bne_iff_ne, ne_eq, beq_iff_eq, List.contains_eq_mem,
      decide_eq_false_iff_not] at hkey
    obtain ⟨⟨⟨⟨hsp, hhash⟩, hbr⟩, hcolon⟩, hk⟩ := hkey
    have hs : strip (c :: t ++ ':' :: rest) = c :: t ++ ':' :: rstrip rest := by
      rw [strip, List.cons_append, lstrip, List.dropWhile_cons_of_neg (by simp [hsp])]
      exact rstrip_append (c :: t) rest (by decide)
    rw [step, hs, stepS_keyValue ve st d n _ _ hcur hcolon (by simp [isSkip, hhash]) (by simp [isHeader, hbr]), hk, strip_rstrip]
    dsimp only
    cases applyProp k (strip rest) d <;> rfl

/-- the block that tally writes for one rule: header, `match`, `category`, `subcategory`, and `tags` if any -/
def blockLines (name e cat sub : Str) (tagv : Option Str) : List Str :=
  ('[' :: name ++ [']']) :: (['m', 'a', 't', 'c', 'h'] ++ ':' :: ' ' :: e) ::
    (['c', 'a', 't', 'e', 'g', 'o', 'r', 'y'] ++ ':' :: ' ' :: cat) ::
    (['s', 'u', 'b', 'c', 'a', 't', 'e', 'g', 'o', 'r', 'y'] ++ ':' :: ' ' :: sub) ::
    match tagv with
    | some v => [['t', 'a', 'g', 's'] ++ ':' :: ' ' :: v]
    | none => []

theorem run_block {ve : Str → Bool} {st st1 : MState} (n : Nat) {name e cat sub : Str} {tagv : Option Str}
    (hne : (strip name).isEmpty = false) (hclose : closeCur ve st = .ok st1) :
    run ve n st (blockLines name e cat sub tagv) =
      .ok { st1 with
            cur := some { name := strip name, matchExpr := some (strip e), category := some (strip cat),
                          subcategory := some (strip sub), tags := tagv.map fun v => splitTags (strip v) },
            startLine := n } := by
  have sp : ∀ v : Str, strip (' ' :: v) = strip v := fun v => strip_append_left [' '] v rfl
  rw [blockLines.eq_def, run_cons_ok (step_header n hne hclose)]
  refine (run_cons_ok (step_prop (k := .match) rfl (by decide +kernel))).trans ?_
  refine (run_cons_ok (step_prop (k := .category) rfl (by decide +kernel))).trans ?_
  refine (run_cons_ok (step_prop (k := .subcategory) rfl (by decide +kernel))).trans ?_
  cases tagv with
  | none => simp only [sp]; rfl
  | some v =>
    refine (run_cons_ok (step_prop (k := .tags) rfl (by decide +kernel))).trans ?_
    simp only [sp]; rfl

end TallyVerif.RulesFile
