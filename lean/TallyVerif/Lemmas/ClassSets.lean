import TallyVerif.Gen.ClassPy
/-! The set operations of the classification prelude as `List.any`; and: the Python classification reads a tag
list only through the three bits `is_income`, `is_transfer`, `is_investment` (`*_congr`, `is_excluded_eq`), always
taken in the order of `EXCLUDED_FROM_SPENDING` and `specialAgree`. -/
namespace TallyVerif
open TallyVerif.Gen

theorem forFirst_contains_eq_any (S ts : List String) :
    forFirst S (fun tag => if (List.contains ts tag) = true then some true else none) false
      = S.any (fun t => ts.contains t) := by
  unfold forFirst
  induction S with
  | nil => rfl
  | cons s S ih =>
    rw [List.findSome?_cons, List.any_cons]
    cases ts.contains s
    · exact ih
    · rfl

theorem setNonempty_setInter (ts S : List String) :
    setNonempty (setInter ts S) = ts.any (fun x => S.contains x) := by
  unfold setNonempty setInter
  induction ts with
  | nil => rfl
  | cons t ts ih =>
    rw [List.filter_cons, List.any_cons]
    cases S.contains t
    · exact ih
    · rfl

theorem any_contains_swap (ts S : List String) :
    ts.any (fun x => S.contains x) = S.any (fun t => ts.contains t) := by
  rw [Bool.eq_iff_iff]
  simp only [List.any_eq_true, List.contains_iff_mem]
  constructor
  · rintro ⟨x, hx, hs⟩; exact ⟨x, hs, hx⟩
  · rintro ⟨x, hx, hs⟩; exact ⟨x, hs, hx⟩

namespace Gen.ClassPy

theorem categorize_amount_congr (N : NumLike) {lower lower' : String → String} (a : N.α)
    {tags tags' : Option (List String)}
    (hi : is_income N lower tags = is_income N lower' tags')
    (ht : is_transfer N lower tags = is_transfer N lower' tags')
    (hv : is_investment N lower tags = is_investment N lower' tags') :
    categorize_amount N lower a tags = categorize_amount N lower' a tags' := by
  simp only [is_income, is_transfer, is_investment] at hi ht hv
  simp only [categorize_amount, hi, hv, ht]

theorem normalize_amount_congr (N : NumLike) {lower lower' : String → String} (a : N.α)
    {tags tags' : Option (List String)}
    (hi : is_income N lower tags = is_income N lower' tags')
    (hv : is_investment N lower tags = is_investment N lower' tags') :
    normalize_amount N lower a tags = normalize_amount N lower' a tags' := by
  simp only [normalize_amount, hi, hv]

theorem is_excluded_eq (N : NumLike) (lower : String → String) (tags : Option (List String)) :
    is_excluded_from_spending N lower tags =
      (is_income N lower tags || is_transfer N lower tags || is_investment N lower tags) := by
  simp only [is_excluded_from_spending, EXCLUDED_FROM_SPENDING, is_income, is_transfer, is_investment,
    setNonempty_setInter, any_contains_swap (get_tags_lower N lower tags), List.any_cons, List.any_nil, Bool.or_false,
    Bool.or_assoc]

end Gen.ClassPy

theorem specialAgree_iff (N : NumLike) {lowerJs lowerPy : String → String} {tags : Option (List String)} :
    specialAgree lowerJs lowerPy tags = true ↔
      ClassPy.is_income N lowerJs tags = ClassPy.is_income N lowerPy tags ∧
      ClassPy.is_transfer N lowerJs tags = ClassPy.is_transfer N lowerPy tags ∧
      ClassPy.is_investment N lowerJs tags = ClassPy.is_investment N lowerPy tags := by
  simp only [specialAgree, List.all_cons, List.all_nil, Bool.and_true, Bool.and_eq_true, beq_iff_eq]
  exact Iff.rfl

end TallyVerif
