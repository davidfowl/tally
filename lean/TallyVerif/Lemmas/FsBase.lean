import TallyVerif.Model.Fs
/-! Shared by the Fs proof modules (C15, C20): the budget shapes as lists; the machine step when no fault is armed and the crash
states of a run; the guards under which `tally init`, `tally update` and `tally up --migrate` come to migrate; the clauses of `safeB` after `preserved` by name (`classifiesB`);
the check that C15 evaluates for a faulted `tally up --migrate` (`upRunCheck`), and the steps from the checks to the quantified statements. -/
namespace TallyVerif.Fs

theorem getD_mem_cons {α : Type} (l : List α) (k : Nat) (d : α) : l.getD k d ∈ d :: l := by
  rw [List.getD_eq_getElem?_getD]
  cases h : l[k]? with
  | none => exact .head _
  | some a => exact .tail _ (List.mem_of_getElem? h)

theorem mem_bools (b : Bool) : b ∈ bools := by cases b <;> simp [bools]

theorem mem_shapesOf (s : Shape) : s ∈ shapesOf s.settings := by
  obtain ⟨k, c, r, b, vw, mv, d⟩ := s
  simp only [shapesOf, List.mem_flatMap, List.mem_map]
  refine ⟨c, ?_, r, mem_bools r, b, mem_bools b, vw, mem_bools vw, mv, mem_bools mv, d, mem_bools d, rfl⟩
  cases c <;> simp

theorem mem_allShapes (s : Shape) : s ∈ allShapes := by
  have h := mem_shapesOf s
  unfold allShapes
  simp only [List.mem_append]
  cases hk : s.settings <;> rw [hk] at h <;> simp [h]

theorem mem_allLShapes (s : LShape) : s ∈ allLShapes := by
  obtain ⟨a, b, c, d, e⟩ := s
  simp only [allLShapes, List.mem_flatMap, List.mem_map]
  exact ⟨a, mem_bools a, b, mem_bools b, c, mem_bools c, d, mem_bools d, e, mem_bools e, rfl⟩

theorem all_shapes {f : Shape → Bool} (h : allShapes.all f = true) (s : Shape) : f s = true :=
  List.all_eq_true.mp h s (mem_allShapes s)

theorem all_lshapes {f : LShape → Bool} (h : allLShapes.all f = true) (s : LShape) : f s = true :=
  List.all_eq_true.mp h s (mem_allLShapes s)

theorem mem_allPartials (p : Partial) : p ∈ allPartials := by cases p <;> simp [allPartials]

variable {κ : Type}

/-- the state after event `e` went through -/
def step (e : Ev κ) (m : M κ) : M κ :=
  { m with fs := (applyEv m.fs m.fl e).1, fl := (applyEv m.fs m.fl e).2.1, n := m.n + 1,
           hist := m.hist ++ [⟨(applyEv m.fs m.fl e).1, (applyEv m.fs m.fl e).2.1⟩], evs := m.evs ++ [(e, false)],
           outOfModel := m.outOfModel || (applyEv m.fs m.fl e).2.2 }

/-- what a crash would find of `m`: the tree and the file in flight -/
def cur (m : M κ) : Snap κ := ⟨m.fs, m.fl⟩

/-- the crash snapshots of a run that began with the tree `fs₀` and has come to `m`, as `snapshots` lists them -/
def snaps (fs₀ : FS κ) (m : M κ) : List (Snap κ) := ⟨fs₀, none⟩ :: m.hist

theorem crashAt_mem (v : Variants) (p : Prog) (fs : FS κ) (k : Nat) (part : Partial) :
    ∃ s ∈ ⟨(complete v p fs).fs, none⟩ :: snaps fs (complete v p fs), crashAt v p fs k part = materialize part s :=
  ⟨_, getD_mem_cons _ k _, rfl⟩

theorem crashAt_of_no_event {v : Variants} {p : Prog} {fs : FS κ} (h : complete v p fs = start fs) (k : Nat) (part : Partial) :
    crashAt v p fs k part = fs := by
  rw [crashAt, snapshots, h]
  cases k <;> rfl

theorem materialize_full (s : Snap κ) : materialize .full s = flushed s.fs s.fl := by
  cases s with | mk fs fl => cases fl <;> rfl

def Res.closed (r : Res κ) : FS κ := flushed r.m.fs r.m.fl

theorem faultAt_fst (v : Variants) (p : Prog) (fs : FS κ) (k : Nat) :
    (faultAt v p fs k).1 = (runProg v p (start fs (some k))).1.closed := rfl

/-- no file open, no fault armed: the machine between two statements of an undisturbed run -/
def Quiet (m : M κ) : Prop := m.fl = none ∧ m.fault = none

theorem ev_unarmed (e : Ev κ) {m : M κ} (h : m.fault = none) : ev e m = .ok (step e m) := by
  simp [ev, h, step]

/-- `try: t except OSError: pass` as the last thing a command does -/
def tryLast (t : M κ → Res κ) (m : M κ) : Res κ := .ok (tryCatch t m).1

/-- `tally init` in the budget directory `loc` begins with the CSV migration (the guard in `cmdInit`) -/
def initMigrates (loc : Loc) (fs : FS κ) : Bool :=
  match fileAt fs ⟨loc, .csv⟩ with
  | some c => !pathExists fs ⟨loc, .rules⟩ && csvHasRules c
  | Option.none => false

theorem initMigrates_reads {loc : Loc} {fs : FS κ} (h : initMigrates loc fs = true) :
    (∃ c, fileAt fs ⟨loc, .csv⟩ = some c) ∧ lookup fs ⟨loc, .rules⟩ = none := by
  unfold initMigrates at h
  split at h
  · exact ⟨⟨_, ‹_›⟩, by simpa [pathExists] using And.left (Bool.and_eq_true_iff.mp h)⟩
  · cases h

/-- the budget directory `tally init` works in (`runProg`): `./` if `./config` is there, else `./tally` -/
def initLoc (fs : FS κ) : Loc := if isDir fs ⟨.top, .configDir⟩ then .top else .tally

/-- `init_config`: the part of `tally init` that lets an `OSError` propagate -/
def initConfig (loc : Loc) (m : M κ) : Res κ :=
  ev (.mkdir ⟨loc, .configDir⟩) m ⊳ ev (.mkdir ⟨loc, .dataDir⟩) ⊳ ev (.mkdir ⟨loc, .outputDir⟩)
    ⊳ createIfMissing ⟨loc, .settings⟩ .settings ⊳ createIfMissing ⟨loc, .rules⟩ .merchants
    ⊳ createIfMissing ⟨loc, .views⟩ .views ⊳ createIfMissing ⟨loc, .gitignore⟩ .gitignore

theorem runProg_init (v : Variants) {fs : FS κ} {loc : Loc} (hl : initLoc fs = loc) (o : Option Nat) :
    (runProg v .init (start fs o)).1 = cmdInit v.csv loc (start fs o) := by
  subst hl; rfl

theorem cmdInit_eq (v : CsvVariant) (loc : Loc) (m : M κ) :
    cmdInit v loc m =
      initConfig loc (if initMigrates loc m.fs then (migrateCsv v loc m).1 else m) ⊳ tryLast (viewsAppendBody loc) := by
  unfold cmdInit initMigrates
  cases fileAt m.fs ⟨loc, .csv⟩ <;> rfl

/-- `tally update --yes` comes to migrate the layout (the guards of `cmdLayout`) -/
def layoutMigrates (fs : FS κ) : Bool :=
  match findConfigDir fs with
  | Option.none => false
  | some loc => if schemaVersion fs loc ≥ 1 then false else if loc ≠ .top then false else true

theorem cmdLayout_eq (v : LayoutVariant) (m : M κ) :
    cmdLayout v m = if layoutMigrates m.fs then tryLast (migrateLayoutBody v) m else .ok m := by
  fun_cases cmdLayout v m <;> simp_all [layoutMigrates, tryLast]

/-- the budget directory in which `tally up --migrate` comes to migrate (`upRules`: a legacy CSV is in effect and settings.yaml lists sources) -/
def upMigrates (fs : FS κ) : Option Loc :=
  match findConfigDir fs with
  | Option.none => Option.none
  | some loc =>
    match effectiveRules loc fs with
    | .csv _ => if hasSources ((fileAt fs ⟨loc, .settings⟩).getD []) then some loc else Option.none
    | _ => Option.none

theorem effective_rules {fs : FS κ} {loc : Loc} (h : findConfigDir fs = some loc) : (effective fs).rules = effectiveRules loc fs := by
  unfold effective
  rw [h]
  cases hs : fileAt fs ⟨loc, .settings⟩ with
  | none => simp [effectiveRules, hs]
  | some sc => simp only [hs]

/-- what `upMigrates` has read: the budget directory, a settings.yaml without a key, the legacy CSV -/
theorem upMigrates_reads {fs : FS κ} {loc : Loc} (h : upMigrates fs = some loc) :
    findConfigDir fs = some loc ∧ ∃ sc c, fileAt fs ⟨loc, .settings⟩ = some sc ∧ keyMF sc = none ∧ fileAt fs ⟨loc, .csv⟩ = some c := by
  unfold upMigrates at h
  split at h
  · cases h
  · rename_i l hl
    split at h
    · rename_i c hc
      split at h
      · cases h
        refine ⟨hl, ?_⟩
        revert hc
        fun_cases effectiveRules _ fs <;> simp_all
      · cases h
    · cases h

theorem upRules_of_not_migrates {v : CsvVariant} {fs : FS κ} (h : upMigrates fs = Option.none) (m : M κ) (hm : m.fs = fs) :
    upRules v true m = (m, (upRules v true (start fs)).2) := by
  subst hm
  fun_cases upRules v true m <;> simp_all [upMigrates, upRules, start]

theorem upRules_of_migrates {v : CsvVariant} {m : M κ} {loc : Loc} (h : upMigrates m.fs = some loc) :
    upRules v true m =
      if (migrateCsv v loc m).2 then ((migrateCsv v loc m).1, .used (rulesNow (migrateCsv v loc m).1.fs ⟨loc, .rules⟩ false))
      else ((migrateCsv v loc m).1, .used (rulesNow (migrateCsv v loc m).1.fs ⟨loc, .csv⟩ true)) := by
  fun_cases upRules v true m <;> simp_all [upMigrates]
  obtain ⟨_, rfl⟩ := h
  simp_all

theorem complete_up_of_not_migrates (v : Variants) {fs : FS κ} (h : upMigrates fs = Option.none) :
    complete v .upMigrate fs = start fs :=
  congrArg Prod.fst (upRules_of_not_migrates (v := v.csv) h (start fs) rfl)

theorem complete_up_of_migrates (v : Variants) {fs : FS κ} {loc : Loc} (h : upMigrates fs = some loc) :
    complete v .upMigrate fs = (tryLast (migrateCsvBody v.csv loc) (start fs)).m := by
  simp only [complete, runProg, upRules_of_migrates (m := start fs) h]
  split <;> rfl

section Check
variable [DecidableEq κ]

theorem crash_safe_of_check {v : Variants} {p : Prog} {fs₀ : FS Sym} (h : crashCheck v p fs₀ = true)
    (k : Nat) (part : Partial) : Safe v p fs₀ (crashAt v p fs₀ k part) := by
  obtain ⟨s, hs, e⟩ := crashAt_mem v p fs₀ k part
  rw [e, Safe]
  have hs := List.all_eq_true.mp h s hs
  cases hfl : s.fl with
  | none => simpa only [materialize, hfl] using hs
  | some f =>
    simp only [hfl] at hs
    exact List.all_eq_true.mp hs part (mem_allPartials part)

/-- what is left to evaluate of the fault clause of `tally up --migrate` once its trees are known to be crash states: the run's own
    classification — of the undisturbed run, and with the legacy CSV of the crash state after each `k`, which is what the run falls
    back to when the migration's handler has swallowed the error raised by event `k` -/
def upRunCheck (v : Variants) (fs₀ : FS κ) : Bool :=
  runOk fs₀ (crashAt v .upMigrate fs₀ (numEvents v .upMigrate fs₀) .full) (runProg v .upMigrate (start fs₀)).2 &&
  match upMigrates fs₀ with
  | Option.none => true
  | some loc => (List.range (numEvents v .upMigrate fs₀)).all fun k =>
      runOk fs₀ (crashAt v .upMigrate fs₀ k .full) (.used (rulesNow (crashAt v .upMigrate fs₀ k .full) ⟨loc, .csv⟩ true))

/-- the clauses of `safeB` after `preserved`: `fs` classifies as `fs₀` did, now or after re-running `p`, and is not stranded -/
def classifiesB (v : Variants) (p : Prog) (fs₀ fs : FS κ) : Bool :=
  !(effective fs₀).rules.usable ||
    (((effective fs₀).equiv (effective fs) || (effective fs₀).equiv (effective (rerun v p fs))) && !stranded fs)

theorem safe_iff {v : Variants} {p : Prog} {fs₀ fs : FS κ} :
    Safe v p fs₀ fs ↔ preserved fs₀ fs = true ∧ classifiesB v p fs₀ fs = true := Bool.and_eq_true_iff

end Check

end TallyVerif.Fs
