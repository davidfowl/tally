import TallyVerif.Lemmas.FsBase
import TallyVerif.Lemmas.FsFrame
/-!
What an undisturbed command does to an ARBITRARY tree, by where it writes.  `Ends I f fs Q`: run between two statements
(no file open, no fault armed) from the tree `fs`, `f` returns likewise with a tree satisfying `Q`, and every crash state
on the way (a snapshot of `hist`, with none, half or all of the file in flight on disk) satisfies `I`.  The statements of
the commands write at syntactically known paths, so an invariant `I` of the tree goes through a command as soon as it
survives a write at each of them (`Writable`), a creation where nothing was (`Creatable`), or lines appended to
settings.yaml (`Appendable`); it then holds of every crash state too, but for a settings.yaml caught in the middle of
an append (`Torn`).  The invariants C20 and C15 are about are in `FsKeeps.lean`.
-/
namespace TallyVerif.Fs
variable {κ : Type}

theorem ev_andThen {e : Ev κ} {m : M κ} (h : m.fault = none) (g : M κ → Res κ) : ev e m ⊳ g = g (step e m) := by
  rw [ev_unarmed e h]; rfl

theorem firstFree_mem (fs : FS κ) (loc : Loc) (l : List Rel) (d : Rel) : firstFree fs loc l d ∈ d :: l := by
  fun_induction firstFree fs loc l d with
  | case1 => exact .head _
  | case2 r t d _ ih => exact (List.mem_cons.mp ih).elim (fun e => by rw [e]; exact .head _) fun h => .tail _ (.tail _ h)
  | case3 => exact .tail _ (.head _)

theorem firstFree_mem_of (fs : FS κ) (loc : Loc) {l : List Rel} {d : Rel} (hd : d ∈ l) : firstFree fs loc l d ∈ l :=
  (List.mem_cons.mp (firstFree_mem fs loc l d)).elim (fun e => by rw [e]; exact hd) id

def csvBackups : List Rel := [.csvBak, .csvBak1, .csvBak2]

theorem csvBackupName_mem (v : CsvVariant) (fs : FS κ) (loc : Loc) : csvBackupName v fs loc ∈ csvBackups := by
  fun_cases csvBackupName v fs loc
  · exact firstFree_mem_of fs loc (by decide)
  · decide

def rulesBackups : List Rel := [.rulesBak, .rulesBak1, .rulesBak2]

theorem rulesBackupName_mem (fs : FS κ) (loc : Loc) : rulesBackupName fs loc ∈ rulesBackups :=
  firstFree_mem_of fs loc (l := rulesBackups) (by decide)

theorem firstFree_free {fs : FS κ} {loc : Loc} {l : List Rel} {d : Rel} (h : ∃ r ∈ l, lookup fs ⟨loc, r⟩ = none) :
    lookup fs ⟨loc, firstFree fs loc l d⟩ = none := by
  fun_induction firstFree fs loc l d with
  | case1 => simp at h
  | case2 r t d hr ih =>
    obtain ⟨x, hx, hn⟩ := h
    rcases List.mem_cons.mp hx with rfl | hx
    · simp [pathExists, hn] at hr
    · exact ih ⟨x, hx, hn⟩
  | case3 r t d hr => exact lookup_of_not_pathExists hr

/-- a backup name for the legacy CSV is free: the first one, where the code does not look for a free one -/
def BackupFree (v : CsvVariant) (loc : Loc) (fs : FS κ) : Prop :=
  ∃ b ∈ (if v.fresh then csvBackups else [.csvBak]), lookup fs ⟨loc, b⟩ = none

theorem csvBackupName_free {v : CsvVariant} {fs : FS κ} {loc : Loc} (h : BackupFree v loc fs) :
    lookup fs ⟨loc, csvBackupName v fs loc⟩ = none := by
  unfold BackupFree at h
  unfold csvBackupName
  split
  · rw [if_pos ‹_›] at h
    exact firstFree_free h
  · rw [if_neg ‹_›] at h
    obtain ⟨b, hb, hn⟩ := h
    exact List.mem_singleton.mp hb ▸ hn

/-- `upRules` performs events only through `migrateCsv`, and only under `--migrate` -/
theorem upRules_fst (v : CsvVariant) (mig : Bool) (m : M κ) :
    (upRules v mig m).1 = m ∨ mig = true ∧ ∃ loc, (upRules v mig m).1 = (migrateCsv v loc m).1 := by
  fun_cases upRules v mig m <;> simp_all
  · exact .inr ⟨_, by rw [‹migrateCsv v _ m = _›]⟩
  · exact .inr ⟨_, by rw [‹migrateCsv v _ m = _›]⟩

/-- every crash state of the snapshots `t` satisfies `I` -/
def Crashes (I : FS κ → Prop) (t : List (Snap κ)) : Prop := ∀ s ∈ t, ∀ part, I (materialize part s)

def Ends (I : FS κ → Prop) (f : M κ → Res κ) (fs : FS κ) (Q : FS κ → Prop) : Prop :=
  ∀ m, m.fs = fs → Quiet m → ∃ m' t, f m = .ok m' ∧ Quiet m' ∧ Q m'.fs ∧ m'.hist = m.hist ++ t ∧ Crashes I t

def Writable (I : FS κ → Prop) (p : Path) : Prop := ∀ fs, I fs → (∀ n, I (setNode fs p n)) ∧ I (remove fs p)

def Creatable (I : FS κ → Prop) (p : Path) : Prop := ∀ fs n, I fs → lookup fs p = none → I (setNode fs p n)

def Appendable (I : FS κ → Prop) (p : Path) (l1 l2 : Line) : Prop :=
  ∀ fs c, I fs → fileAt fs p = some c → I (setNode fs p (.file (c ++ [.line l1, .line l2])))

theorem Creatable.exists {ι : Type} {J : ι → FS κ → Prop} {P : ι → Prop} {p : Path} (h : ∀ i, Creatable (J i) p) :
    Creatable (fun fs => ∃ i, P i ∧ J i fs) p := fun fs n ⟨i, hp, hj⟩ hn => ⟨i, hp, h i fs n hj hn⟩

theorem Appendable.exists {ι : Type} {J : ι → FS κ → Prop} {P : ι → Prop} {p : Path} {l1 l2 : Line} (h : ∀ i, Appendable (J i) p l1 l2) :
    Appendable (fun fs => ∃ i, P i ∧ J i fs) p l1 l2 := fun fs c ⟨i, hp, hj⟩ hc => ⟨i, hp, h i fs c hj hc⟩

theorem Writable.moved {I : FS κ → Prop} {a b : Path} (ha : Writable I a) (hb : Writable I b) {fs : FS κ} (h : I fs) (n : Node κ) :
    I (setNode (remove fs a) b n) := (hb _ (ha _ h).2).1 n

theorem Writable.creatable {I : FS κ → Prop} {p : Path} (h : Writable I p) : Creatable I p := fun fs n hi _ => (h fs hi).1 n

theorem Writable.appendable {I : FS κ → Prop} {p : Path} {l1 l2 : Line} (h : Writable I p) : Appendable I p l1 l2 :=
  fun fs _ hi _ => (h fs hi).1 _

theorem path_ne_of_rel {l l' : Loc} {b r : Rel} {L : List Rel} (hb : b ∈ L) (hr : r ∉ L) : (⟨l, b⟩ : Path) ≠ ⟨l', r⟩ :=
  fun e => hr (by injection e with _ e; exact e ▸ hb)

theorem Writable.lookup_eq {q p : Path} (hp : q ≠ p) (o : Option (Node κ)) : Writable (fun x => lookup x q = o) p :=
  fun x hx => ⟨fun n => (lookup_setNode_ne x p q n hp).trans hx, (lookup_remove_ne x p q hp).trans hx⟩

/-- `init_config`, which creates what is missing of these -/
def initCreates : List Rel := [.configDir, .dataDir, .outputDir, .settings, .rules, .views, .gitignore]

/-- the states in which a crash can leave what `appendLines _ l1 l2` has appended so far -/
def tornLines (l1 l2 : Line) : List (Content κ) := [[], [.cut (.line l1)], [.line l1], [.line l1, .line l2]]

theorem torn_nil {l1 l2 : Line} : ([] : Content κ) ∈ tornLines l1 l2 := .head _

theorem torn_full {l1 l2 : Line} : [.line l1, .line l2] ∈ tornLines (κ := κ) l1 l2 := by simp [tornLines]

/-- `J`, or `J` but for the file at `s` caught in the middle of an append -/
def Torn (s : Path) (J : FS κ → Prop) (y : FS κ) : Prop :=
  J y ∨ ∃ x c t, J x ∧ fileAt x s = some c ∧ y = setNode x s (.file (c ++ t))

/-- in the form the append rules ask for their crash states (`hi`): `Torn` does not say what was appended -/
theorem Torn.append {J : FS κ → Prop} {s : Path} {fs : FS κ} (h : J fs) (l1 l2 : Line) (c : Content κ)
    (hc : fileAt fs s = some c) (t : Content κ) (_ : t ∈ tornLines l1 l2) : Torn s J (setNode fs s (.file (c ++ t))) :=
  .inr ⟨fs, c, t, h, hc, rfl⟩

theorem Torn.mono {J J' : FS κ → Prop} {s : Path} (h : ∀ x, J x → J' x) (y : FS κ) : Torn s J y → Torn s J' y
  | .inl hy => .inl (h y hy)
  | .inr ⟨x, c, t, hx, e⟩ => .inr ⟨x, c, t, h x hx, e⟩

theorem pathExists_setNode {fs : FS κ} {q p : Path} {n : Node κ} (h : pathExists fs q = true) :
    pathExists (setNode fs p n) q = true := by
  unfold pathExists
  by_cases hq : q = p
  · rw [hq, lookup_setNode_self]; rfl
  · rw [lookup_setNode_ne _ _ _ _ hq]; exact h

def Has (ps : List Path) (fs : FS κ) : Prop := ∀ q ∈ ps, pathExists fs q = true

theorem Has.creatable {ps : List Path} (p : Path) : Creatable (Has (κ := κ) ps) p :=
  fun _ _ h _ q hq => pathExists_setNode (h q hq)

theorem Has.appendable {ps : List Path} (p : Path) (l1 l2 : Line) : Appendable (Has (κ := κ) ps) p l1 l2 :=
  fun _ _ h _ q hq => pathExists_setNode (h q hq)

theorem Has.single {fs : FS κ} {p : Path} (h : pathExists fs p = true) : Has [p] fs := fun _ hq => List.mem_singleton.mp hq ▸ h

def MentionsViews (loc : Loc) (fs : FS κ) : Prop := ∀ sc, fileAt fs ⟨loc, .settings⟩ = some sc → mentionsVF sc = true

namespace Ends
variable {f g : M κ → Res κ} {fs : FS κ} {Q R I J : FS κ → Prop}

theorem pure (h : Q fs) : Ends I (fun m : M κ => .ok m) fs Q :=
  fun m hm hq => ⟨m, [], rfl, hq, hm ▸ h, (List.append_nil _).symm, fun _ hs => nomatch hs⟩

theorem seq (hf : Ends I f fs R) (hg : ∀ fs', R fs' → Ends I g fs' Q) : Ends I (fun m => f m ⊳ g) fs Q := by
  intro m hm hq
  obtain ⟨m₁, t₁, e₁, q₁, r₁, h₁, c₁⟩ := hf m hm hq
  obtain ⟨m₂, t₂, e₂, q₂, r₂, h₂, c₂⟩ := hg _ r₁ m₁ rfl q₁
  exact ⟨m₂, t₁ ++ t₂, show f m ⊳ g = _ by rw [e₁]; exact e₂, q₂, r₂, by rw [h₂, h₁, List.append_assoc],
    fun s hs => (List.mem_append.mp hs).elim (c₁ s) (c₂ s)⟩

theorem mono {I' : FS κ → Prop} (h : ∀ x, I x → I' x) (hf : Ends I f fs Q) : Ends I' f fs Q := fun m hm hq =>
  let ⟨m', t, e, q, r, hh, c⟩ := hf m hm hq; ⟨m', t, e, q, r, hh, fun s hs part => h _ (c s hs part)⟩

theorem imp {I' : FS κ → Prop} (h : ∀ x, I x → I' x) (hf : Ends I f fs I) : Ends I' f fs I' := fun m hm hq =>
  let ⟨m', t, e, q, r, hh, c⟩ := hf m hm hq; ⟨m', t, e, q, h _ r, hh, fun s hs part => h _ (c s hs part)⟩

theorem tryLast (hf : Ends I f fs Q) : Ends I (tryLast f) fs Q := fun m hm hq =>
  let ⟨m', t, e, r⟩ := hf m hm hq; ⟨m', t, by simp only [Fs.tryLast, tryCatch, e], r⟩

/-- a choice the machine does not enter into; one that looks at the tree is of this form at each `m` with `m.fs = fs` -/
theorem branch {c : Prop} [Decidable c] (hf : c → Ends I f fs Q) (hg : ¬ c → Ends I g fs Q) :
    Ends I (fun m => if c then f m else g m) fs Q := by
  intro m
  split
  · exact hf ‹_› m
  · exact hg ‹_› m

/-- an event that leaves no file open: the one crash state it adds is the tree it ends with -/
theorem ev (e : Ev κ) (hl : (applyEv fs none e).2.1 = none) (hi : I (applyEv fs none e).1) (h : Q (applyEv fs none e).1) :
    Ends I (Fs.ev e) fs Q := by
  intro m hm hq
  subst hm
  rw [← hq.1] at hi h
  have hl : (step e m).fl = none := by simpa only [step, hq.1] using hl
  refine ⟨step e m, [cur (step e m)], ev_unarmed e hq.2, ⟨hl, hq.2⟩, h, rfl, fun s hs part => ?_⟩
  rw [List.mem_singleton.mp hs, materialize, show (cur (step e m)).fl = none from hl]
  exact hi

theorem writeFile (p : Path) (c : Chunk κ) (hi : ∀ x, I (setNode fs p (.file x))) (h : Q (setNode fs p (.file [c]))) :
    Ends I (writeFile p c) fs Q := by
  intro m hm hq
  subst hm
  refine ⟨step .close (step (.write c) (step (.openW p) m)),
    [cur (step (.openW p) m), cur (step (.write c) (step (.openW p) m)), cur (step .close (step (.write c) (step (.openW p) m)))],
    ?_, ⟨rfl, hq.2⟩, ?_, by simp [step, cur], fun s hs part => ?_⟩
  · rw [Fs.writeFile, ev_andThen hq.2, ev_andThen (m := step _ m) hq.2, ev_unarmed (m := step _ (step _ m)) _ hq.2]
  · simpa [step, applyEv, flushed, hq.1, setNode_setNode] using h
  · simp only [List.mem_cons, List.not_mem_nil, or_false] at hs
    rcases hs with rfl | rfl | rfl <;> cases part <;>
      simpa [materialize, cur, step, applyEv, flushed, hq.1, setNode_setNode, applyPartial] using hi _

theorem appendLines (p : Path) (l1 l2 : Line)
    (hi : ∀ t ∈ tornLines l1 l2, I (setNode fs p (.file ((fileAt fs p).getD [] ++ t))))
    (h : Q (setNode fs p (.file ((fileAt fs p).getD [] ++ [.line l1, .line l2])))) : Ends I (appendLines p l1 l2) fs Q := by
  intro m hm hq
  subst hm
  refine ⟨step .close (step (.write (.line l2)) (step (.write (.line l1)) (step (.openA p) m))),
    [cur (step (.openA p) m), cur (step (.write (.line l1)) (step (.openA p) m)),
     cur (step (.write (.line l2)) (step (.write (.line l1)) (step (.openA p) m))),
     cur (step .close (step (.write (.line l2)) (step (.write (.line l1)) (step (.openA p) m))))],
    ?_, ⟨rfl, hq.2⟩, ?_, by simp [step, cur], fun s hs part => ?_⟩
  · rw [Fs.appendLines, ev_andThen hq.2, ev_andThen (m := step _ m) hq.2, ev_andThen (m := step _ (step _ m)) hq.2,
      ev_unarmed (m := step _ (step _ (step _ m))) _ hq.2]
  · simpa [step, applyEv, flushed, hq.1, setNode_setNode] using h
  · have torn : ∀ q ∈ [[], [.line l1], [.line l1, .line l2]], applyPartial part q ∈ tornLines (κ := κ) l1 l2 := by
      cases part <;> simp [applyPartial, tornLines]
    simp only [List.mem_cons, List.not_mem_nil, or_false] at hs
    rcases hs with rfl | rfl | rfl | rfl
    · simpa [materialize, cur, step, applyEv, flushed, hq.1, setNode_setNode] using hi _ (torn [] (by simp))
    · simpa [materialize, cur, step, applyEv, flushed, hq.1, setNode_setNode] using hi _ (torn [.line l1] (by simp))
    · simpa [materialize, cur, step, applyEv, flushed, hq.1, setNode_setNode] using hi _ (torn [.line l1, .line l2] (by simp))
    · simpa [materialize, cur, step, applyEv, flushed, hq.1, setNode_setNode] using hi _ torn_full

theorem mkdir {p : Path} (hp : Creatable I p) (ht : p.loc = .tally → Creatable I ⟨.top, .tallyDir⟩) (h : I fs) :
    Ends I (Fs.ev (.mkdir p)) fs I := by
  have key : ∀ {x : FS κ}, I x → I (if pathExists x p then x else setNode x p .dir) := by
    intro x hx
    split
    · exact hx
    · exact hp _ _ hx (lookup_of_not_pathExists ‹_›)
  have after : I (applyEv fs none (.mkdir p)).1 := by
    refine key ?_
    -- `makedirs`: under `./tally` the event first creates `./tally` itself if it is missing
    split
    · exact ht (by simp_all) _ _ h (lookup_of_not_pathExists (by simp_all))
    · exact h
  exact ev _ rfl after after

theorem move {e : Ev κ} {a b : Path} (he : e = .move a b ∨ e = .replace a b) (ha : Writable I a) (hb : Writable I b) (h : I fs) :
    Ends I (Fs.ev e) fs I := by
  have after : I (applyEv fs none e).1 := by
    cases hl : lookup fs a with
    | none => rcases he with rfl | rfl <;> simpa only [applyEv, hl] using h
    | some n => rcases he with rfl | rfl <;> simpa only [applyEv, hl] using ha.moved hb h n
  exact ev _ (by rcases he with rfl | rfl <;> simp only [applyEv] <;> split <;> rfl) after after

theorem createIfMissing {p : Path} (s : Starter) (hp : Creatable I p) (h : I fs) : Ends I (createIfMissing p s) fs I :=
  fun m hm => branch (fun _ => pure h)
    (fun hn => writeFile _ _ (fun _ => hp _ _ h (lookup_of_not_pathExists (hm ▸ hn))) (hp _ _ h (lookup_of_not_pathExists (hm ▸ hn)))) m hm

/-- the two statements that append to settings.yaml: the crash states, which only the append has, are asked for as such (`hi`) -/
theorem settingsAppend (v : CsvVariant) {loc : Loc}
    (hi : ∀ c, fileAt fs ⟨loc, .settings⟩ = some c → ∀ t ∈ tornLines .mfComment .mfKey, I (setNode fs ⟨loc, .settings⟩ (.file (c ++ t))))
    (ha : Appendable J ⟨loc, .settings⟩ .mfComment .mfKey) (h : J fs) : Ends I (settingsAppend v loc) fs J := by
  intro m hm
  fun_cases Fs.settingsAppend v loc m
  · exact pure h m hm
  · exact pure h m hm
  · have hc : fileAt fs ⟨loc, .settings⟩ = some _ := hm ▸ ‹fileAt m.fs _ = _›
    exact appendLines _ _ _ (by rw [hc]; exact hi _ hc) (by rw [hc]; exact ha _ _ h hc) m hm

theorem viewsAppendBody {loc : Loc}
    (hi : ∀ c, fileAt fs ⟨loc, .settings⟩ = some c → ∀ t ∈ tornLines .vfComment .vfKey, I (setNode fs ⟨loc, .settings⟩ (.file (c ++ t))))
    (ha : Appendable J ⟨loc, .settings⟩ .vfComment .vfKey) (h : J fs) : Ends I (viewsAppendBody loc) fs J := by
  intro m hm
  fun_cases Fs.viewsAppendBody loc m
  · exact pure h m hm
  · have hc : fileAt fs ⟨loc, .settings⟩ = some _ := hm ▸ ‹fileAt m.fs _ = _›
    exact appendLines _ _ _ (by rw [hc]; exact hi _ hc) (by rw [hc]; exact ha _ _ h hc) m hm
  · exact pure h m hm

theorem initConfig {loc : Loc} (hc : ∀ r, r ∈ initCreates → Creatable I ⟨loc, r⟩) (ht : Creatable I ⟨.top, .tallyDir⟩) (h : I fs) :
    Ends I (initConfig loc) fs I :=
  ((((((mkdir (hc _ (by decide)) (fun _ => ht) h).seq fun _ => mkdir (hc _ (by decide)) fun _ => ht).seq
    fun _ => mkdir (hc _ (by decide)) fun _ => ht).seq
    fun _ => createIfMissing _ (hc _ (by decide))).seq fun _ => createIfMissing _ (hc _ (by decide))).seq
    fun _ => createIfMissing _ (hc _ (by decide))).seq fun _ => createIfMissing _ (hc _ (by decide))

theorem initMigration (v : CsvVariant) {loc : Loc} (hmig : initMigrates loc fs = true → Ends I (migrateCsvBody v loc) fs J) (h : J fs) :
    Ends I (fun m => .ok (if initMigrates loc m.fs then (migrateCsv v loc m).1 else m)) fs J := by
  intro m hm
  dsimp only
  rw [apply_ite Res.ok]
  exact branch (fun hc => tryLast (hmig (hm ▸ hc))) (fun _ => pure h) m hm

/-- `cmdInit` in two stages, for a conclusion other than the invariant the first stage keeps (`init_settles`) -/
theorem cmdInit_stages (v : CsvVariant) {loc : Loc}
    (h₁ : Ends I (fun m => .ok (if initMigrates loc m.fs then (migrateCsv v loc m).1 else m)) fs R)
    (h₂ : ∀ x, R x → Ends I (fun m => Fs.initConfig loc m ⊳ Fs.tryLast (Fs.viewsAppendBody loc)) x Q) : Ends I (cmdInit v loc) fs Q := by
  intro m hm
  rw [cmdInit_eq]
  exact (h₁.seq h₂) m hm

/-- what `tally init` does after its migration step: `init_config`, then the views append -/
theorem configStage {loc : Loc} (hc : ∀ r, r ∈ initCreates → Creatable I ⟨loc, r⟩) (ht : Creatable I ⟨.top, .tallyDir⟩)
    (ha : Appendable I ⟨loc, .settings⟩ .vfComment .vfKey) (h : I fs) :
    Ends (Torn ⟨loc, .settings⟩ I) (fun m => Fs.initConfig loc m ⊳ Fs.tryLast (Fs.viewsAppendBody loc)) fs I :=
  ((initConfig hc ht h).mono fun _ => .inl).seq fun _ h => tryLast (viewsAppendBody (Torn.append h _ _) ha h)

theorem cmdInit (v : CsvVariant) {loc : Loc} (hc : ∀ r, r ∈ initCreates → Creatable I ⟨loc, r⟩) (ht : Creatable I ⟨.top, .tallyDir⟩)
    (ha : Appendable I ⟨loc, .settings⟩ .vfComment .vfKey)
    (hmig : initMigrates loc fs = true → Ends (Torn ⟨loc, .settings⟩ I) (migrateCsvBody v loc) fs I) (h : I fs) :
    Ends (Torn ⟨loc, .settings⟩ I) (cmdInit v loc) fs I :=
  cmdInit_stages v (initMigration v hmig h) fun _ => configStage hc ht ha

theorem backupCsv (v : CsvVariant) {loc : Loc} (hc : Writable I ⟨loc, .csv⟩) (hb : ∀ b ∈ csvBackups, Writable I ⟨loc, b⟩) (h : I fs) :
    Ends I (Fs.backupCsv v loc) fs I :=
  fun m hm => branch (fun _ => move (.inl rfl) hc (hb _ (csvBackupName_mem v _ loc)) h) (fun _ => pure h) m hm

/-- the CSV migration keeps `I` up to the backup of the CSV, which takes `I` to the weaker `I'`; the append to settings.yaml comes
    before that backup in one statement order (`ha`) and after it in the other (`ha'`) -/
theorem migrateCsvBody {I' : FS κ → Prop} (v : CsvVariant) {loc : Loc} (hr : Writable I ⟨loc, .rules⟩) (ht : Writable I ⟨loc, .rulesTmp⟩)
    (hk : pathExists fs ⟨loc, .rules⟩ = true → Writable I ⟨loc, rulesBackupName fs loc⟩)
    (ha : Appendable I ⟨loc, .settings⟩ .mfComment .mfKey) (ha' : Appendable I' ⟨loc, .settings⟩ .mfComment .mfKey)
    (hb : ∀ fs, I fs → Ends I' (Fs.backupCsv v loc) fs I') (hw : ∀ x, I x → I' x) (h : I fs) :
    Ends (Torn ⟨loc, .settings⟩ I') (migrateCsvBody v loc) fs I' := by
  intro m hm
  subst hm
  have first := branch (I := I) (c := (v.fresh && pathExists m.fs ⟨loc, .rules⟩) = true)
    (fun hc => move (.inl rfl) hr (hk (by simp_all)) h) fun _ => pure h
  have weak : ∀ x, I x → Torn ⟨loc, .settings⟩ I' x := fun x hx => .inl (hw x hx)
  fun_cases Fs.migrateCsvBody v loc m
  · exact (((((first.seq fun _ h => writeFile _ _ (fun _ => (ht _ h).1 _) ((ht _ h).1 _)).seq fun _ h => move (.inr rfl) ht hr h).mono weak).seq
      fun _ h => (settingsAppend v (Torn.append h _ _) ha h).mono (Torn.mono hw)).seq fun _ h => (hb _ h).mono fun _ => .inl) m rfl
  · exact ((((first.seq fun _ h => writeFile _ _ (fun _ => (hr _ h).1 _) ((hr _ h).1 _)).mono weak).seq fun _ h => (hb _ h).mono fun _ => .inl).seq
      fun _ h => settingsAppend v (Torn.append h _ _) ha' h) m rfl

/-- where the migration begins by backing up an existing merchants.rules, it goes on as it would from the tree with the file moved -/
theorem migrateCsvBody_backup (v : CsvVariant) {loc : Loc} {n : Node κ} (hv : v.fresh = true) (hr : lookup fs ⟨loc, .rules⟩ = some n)
    (hi : I (setNode (remove fs ⟨loc, .rules⟩) ⟨loc, rulesBackupName fs loc⟩ n))
    (h : Ends I (Fs.migrateCsvBody v loc) (setNode (remove fs ⟨loc, .rules⟩) ⟨loc, rulesBackupName fs loc⟩ n) Q) :
    Ends I (Fs.migrateCsvBody v loc) fs Q := by
  intro m hm hq
  subst hm
  have hb : ∀ r ∈ [Rel.rules, .csv], (⟨loc, r⟩ : Path) ≠ ⟨loc, rulesBackupName m.fs loc⟩ :=
    fun r hr => (path_ne_of_rel (rulesBackupName_mem m.fs loc) ((by decide : ∀ r ∈ [Rel.rules, .csv], r ∉ rulesBackups) r hr)).symm
  let m₁ := step (.move ⟨loc, .rules⟩ ⟨loc, rulesBackupName m.fs loc⟩) m
  have hfs : m₁.fs = setNode (remove m.fs ⟨loc, .rules⟩) ⟨loc, rulesBackupName m.fs loc⟩ n := by simp [m₁, step, applyEv, hr]
  have eq : Fs.migrateCsvBody v loc m = Fs.migrateCsvBody v loc m₁ := by
    have h1 : pathExists m.fs ⟨loc, .rules⟩ = true := by simp [pathExists, hr]
    have h2 : pathExists m₁.fs ⟨loc, .rules⟩ = false := by
      rw [pathExists, hfs, lookup_moved, if_neg (hb _ (by decide)), if_pos rfl]; rfl
    have h3 : fileAt m₁.fs ⟨loc, .csv⟩ = fileAt m.fs ⟨loc, .csv⟩ := by
      rw [fileAt, fileAt, hfs, lookup_moved, if_neg (hb _ (by decide)), if_neg (by simp)]
    unfold Fs.migrateCsvBody
    simp only [hv, h1, h2, h3, Bool.and_self, Bool.and_false, if_true, Bool.false_eq_true, if_false]
    rw [ev_unarmed _ hq.2]
  obtain ⟨m', t, e, q, r, hh, c⟩ := h m₁ hfs ⟨by simp [m₁, step, applyEv, hr, hq.1], hq.2⟩
  refine ⟨m', cur m₁ :: t, eq ▸ e, q, r, by rw [hh]; simp [m₁, step, cur], fun s hs part => ?_⟩
  rcases List.mem_cons.mp hs with rfl | hs
  · rw [materialize, show (cur m₁).fl = none by simp [m₁, cur, step, applyEv, hr, hq.1]]
    show I m₁.fs
    rw [hfs]; exact hi
  · exact c s hs part

/-- the names the CSV migration writes to or moves, settings.yaml apart -/
def migrateRels : List Rel := [.rules, .rulesTmp, .rulesBak, .rulesBak1, .rulesBak2, .csv, .csvBak, .csvBak1, .csvBak2]

theorem migrateCsvBody_writable (v : CsvVariant) {loc : Loc} (W : ∀ b ∈ migrateRels, Writable I ⟨loc, b⟩)
    (A : Appendable I ⟨loc, .settings⟩ .mfComment .mfKey)
    (h : I fs) : Ends (Torn ⟨loc, .settings⟩ I) (Fs.migrateCsvBody v loc) fs I :=
  migrateCsvBody v (W _ (by decide)) (W _ (by decide))
    (fun _ => W _ ((by decide : ∀ b ∈ rulesBackups, b ∈ migrateRels) _ (rulesBackupName_mem fs loc))) A A
    (fun _ => backupCsv v (W _ (by decide)) fun b hb => W b ((by decide : ∀ b ∈ csvBackups, b ∈ migrateRels) b hb)) (fun _ => id) h

/-- `upRules` and `cmdUp` find the budget directory themselves, so the crash states of the migration step are described by any `C`
    that holds of them in every directory -/
theorem upRules {C : FS κ → Prop} (v : CsvVariant) (mig : Bool) (hmig : mig = true → ∀ loc, Ends C (Fs.migrateCsvBody v loc) fs I)
    (h : I fs) : Ends C (fun m => .ok (upRules v mig m).1) fs I := by
  intro m hm hq
  dsimp only
  rcases upRules_fst v mig m with e | ⟨hmg, loc, e⟩
  -- no event, or those of `migrateCsv`, whose first component is what `tryLast` returns
  · rw [e]; exact pure h m hm hq
  · rw [e]; exact tryLast (hmig hmg loc) m hm hq

theorem cmdUp {C : FS κ → Prop} (v : CsvVariant) (mig html : Bool) (hmig : mig = true → ∀ loc, Ends C (Fs.migrateCsvBody v loc) fs I)
    (hw : ∀ loc, findConfigDir fs = some loc →
      Creatable I ⟨loc, .outputDir⟩ ∧ (loc = .tally → Creatable I ⟨.top, .tallyDir⟩) ∧ Writable I ⟨loc, .report⟩)
    (hC : ∀ x, I x → C x) (h : I fs) : Ends C (cmdUp v mig html) fs I := by
  intro m hm hq
  obtain ⟨_, t, ⟨⟩, q', i', hh, ct⟩ := upRules v mig hmig h m hm hq
  have last : ∀ loc, findConfigDir m.fs = some loc →
      Ends C (fun m => Fs.ev (.mkdir ⟨loc, .outputDir⟩) m ⊳ Fs.writeFile ⟨loc, .report⟩ (.starter .report)) (Fs.upRules v mig m).1.fs I :=
    fun loc hl => ((mkdir (hw loc (hm ▸ hl)).1 (hw loc (hm ▸ hl)).2.1 i').seq
      fun _ h => writeFile _ _ (fun _ => ((hw loc (hm ▸ hl)).2.2 _ h).1 _) (((hw loc (hm ▸ hl)).2.2 _ h).1 _)).mono hC
  fun_cases Fs.cmdUp v mig html m
  -- no budget directory, no settings.yaml, no sources: `up` returns at once
  case case1 | case2 | case3 => exact ⟨m, [], rfl, hq, hm ▸ h, (List.append_nil _).symm, nofun⟩
  all_goals rw [‹Fs.upRules v mig m = _›] at q' i' hh last
  -- the one branch that writes after `upRules`: the report, under `--html`
  case case6 =>
    obtain ⟨m₂, t₂, e₂, q₂, i₂, h₂, c₂⟩ := last _ ‹_› _ rfl q'
    exact ⟨m₂, t ++ t₂, e₂, q₂, i₂, by rw [h₂, hh, List.append_assoc], fun s hs => (List.mem_append.mp hs).elim (ct s) (c₂ s)⟩
  all_goals exact ⟨_, t, rfl, q', i', hh, ct⟩

theorem and {I' : FS κ → Prop} (h₁ : Ends I f fs Q) (h₂ : Ends I' f fs R) : Ends (fun x => I x ∧ I' x) f fs (fun x => Q x ∧ R x) := by
  intro m hm hq
  obtain ⟨m₁, t₁, e₁, q₁, r₁, hh₁, c₁⟩ := h₁ m hm hq
  obtain ⟨m₂, t₂, e₂, -, r₂, hh₂, c₂⟩ := h₂ m hm hq
  obtain rfl : m₁ = m₂ := Res.ok.inj (e₁.symm.trans e₂)
  obtain rfl : t₁ = t₂ := List.append_cancel_left (hh₁.symm.trans hh₂)
  exact ⟨m₁, t₁, e₁, q₁, ⟨r₁, r₂⟩, hh₁, fun s hs part => ⟨c₁ s hs part, c₂ s hs part⟩⟩

theorem has_cons {I' : FS κ → Prop} {ps : List Path} {p : Path} (h₁ : Ends I f fs (Has [p])) (h₂ : Ends I' f fs (Has ps)) :
    Ends (fun _ => True) f fs (Has (p :: ps)) :=
  fun m hm hq => let ⟨m', t, e, q, ⟨r₁, r₂⟩, hh, _⟩ := h₁.and h₂ m hm hq
    ⟨m', t, e, q, fun x hx => (List.mem_cons.mp hx).elim (fun e => r₁ x (e ▸ .head _)) (r₂ x), hh, fun _ _ _ => trivial⟩

theorem mkdir_has {ps : List Path} {p : Path} (h : Has ps fs) : Ends (fun _ => True) (Fs.ev (.mkdir p)) fs (Has (p :: ps)) := by
  have key : ∀ x : FS κ, pathExists (if pathExists x p then x else Fs.setNode x p .dir) p = true := by
    intro x
    split
    · assumption
    · simp [pathExists, lookup_setNode_self]
  exact has_cons (ev (I := fun _ => True) _ rfl trivial (Has.single (key _))) (mkdir (Has.creatable _) (fun _ => Has.creatable _) h)

theorem createIfMissing_has {ps : List Path} {p : Path} {s : Starter} (h : Has ps fs) :
    Ends (fun _ => True) (Fs.createIfMissing p s) fs (Has (p :: ps)) :=
  has_cons (fun m hm => branch (fun hc => pure (Has.single (hm ▸ hc)))
      (fun _ => writeFile (I := fun _ => True) _ _ (fun _ => trivial) (Has.single (by simp [pathExists, lookup_setNode_self]))) m hm)
    (createIfMissing s (Has.creatable _) h)

theorem initConfig_has : Ends (fun _ => True) (Fs.initConfig .top) fs (Has ((initCreates.map (⟨.top, ·⟩)).reverse)) :=
  ((((((mkdir_has (fun _ h => by cases h)).seq fun _ => mkdir_has).seq fun _ => mkdir_has).seq fun _ => createIfMissing_has).seq
    fun _ => createIfMissing_has).seq fun _ => createIfMissing_has).seq fun _ => createIfMissing_has

theorem viewsAppendBody_mentions {loc : Loc} (hv : pathExists fs ⟨loc, .views⟩ = true) :
    Ends (fun _ => True) (Fs.viewsAppendBody loc) fs (MentionsViews loc) := by
  intro m hm
  subst hm
  fun_cases Fs.viewsAppendBody loc m
  · refine pure ?_ m rfl
    intro sc h
    rw [‹fileAt m.fs _ = none›] at h; cases h
  · refine appendLines _ _ _ (fun _ _ => trivial) ?_ m rfl
    intro sc h
    simp only [fileAt, lookup_setNode_self, Option.some.injEq] at h
    subst h
    simp [mentionsVF, Chunk.mentionsVF]
  · refine pure ?_ m rfl
    intro sc h
    simp_all

/-- from a command's `Ends` to its run from the start: every crash state of every snapshot, and the tree at the end -/
theorem start (h : Ends I f fs I) (h0 : I fs) :
    ∃ m', f (Fs.start fs) = .ok m' ∧ Quiet m' ∧ ∀ s ∈ ⟨m'.fs, none⟩ :: snaps fs m', ∀ part, I (materialize part s) := by
  obtain ⟨m', t, e, q, hq, hh, c⟩ := h (Fs.start fs) rfl ⟨rfl, rfl⟩
  refine ⟨m', e, q, fun s hs part => ?_⟩
  rcases List.mem_cons.mp hs with rfl | hs
  · exact hq
  · rcases List.mem_cons.mp hs with rfl | hs
    · exact h0
    · exact c s (by rw [hh] at hs; exact hs) part

theorem complete {v : Variants} {p : Prog} (hf : complete v p fs = (f (Fs.start fs)).m) (h : Ends I f fs Q) : Q (Fs.complete v p fs).fs := by
  obtain ⟨m', -, e, -, hq, -⟩ := h (Fs.start fs) rfl ⟨rfl, rfl⟩
  rw [hf, e]; exact hq

theorem crashAt {v : Variants} {p : Prog} (hf : Fs.complete v p fs = (f (Fs.start fs)).m) (h : Ends I f fs I) (h0 : I fs) (k : Nat)
    (part : Partial) : I (Fs.crashAt v p fs k part) := by
  obtain ⟨m', e, -, c⟩ := h.start h0
  obtain ⟨s, hs, es⟩ := crashAt_mem v p fs k part
  rw [hf, e] at hs
  exact es ▸ c s hs part

end Ends

end TallyVerif.Fs
