/-! `List.mapM` in `Except`: the answers in order, or the first failure.  A traversal succeeds with `ys` exactly when
`xs.map f = ys.map .ok` (`List.mapM_eq_ok`); what is known of `List.map` then says how it splits.  At the end: what a `map` or
`bind` in `Except` that succeeds was applied to. -/

namespace List
variable {ε α β : Type}

theorem mapM_except_cons (f : α → Except ε β) (a : α) (l : List α) :
    (a :: l).mapM f = match f a with
      | .error e => .error e
      | .ok b => match l.mapM f with
        | .error e => .error e
        | .ok bs => .ok (b :: bs) := by
  rw [List.mapM_cons]
  cases f a with
  | error e => rfl
  | ok b => cases l.mapM f <;> rfl

theorem mapM_eq_ok {f : α → Except ε β} {xs : List α} {ys : List β} : xs.mapM f = .ok ys ↔ xs.map f = ys.map .ok := by
  induction xs generalizing ys with
  | nil => cases ys <;> simp [pure, Except.pure]
  | cons a l ih =>
    rw [mapM_except_cons]
    cases ha : f a with
    | error e => cases ys <;> simp [ha]
    | ok b =>
      cases hl : l.mapM f with
      | error e => cases ys <;> simp [ha]; intro _ h; rw [ih.mpr h] at hl; cases hl
      | ok bs => cases ys <;> simp [ha, ← ih, hl]

theorem isOk_mapM (f : α → Except ε β) (xs : List α) : (xs.mapM f).isOk = xs.all fun x => (f x).isOk := by
  induction xs with
  | nil => rfl
  | cons a l ih =>
    rw [mapM_except_cons, all_cons, ← ih]
    cases f a with
    | error e => rfl
    | ok b => cases l.mapM f <;> rfl

theorem mapM_ok_append {f : α → Except ε β} {a b : List α} {S : List β} (h : (a ++ b).mapM f = .ok S) :
    ∃ A B, a.mapM f = .ok A ∧ b.mapM f = .ok B ∧ S = A ++ B := by
  rw [mapM_eq_ok, map_append, append_eq_map_iff] at h
  obtain ⟨A, B, rfl, hA, hB⟩ := h
  exact ⟨A, B, mapM_eq_ok.mpr hA.symm, mapM_eq_ok.mpr hB.symm, rfl⟩

theorem mapM_ok_cons {f : α → Except ε β} {x : α} {l : List α} {S : List β} (h : (x :: l).mapM f = .ok S) :
    ∃ s B, f x = .ok s ∧ l.mapM f = .ok B ∧ S = s :: B := by
  rw [mapM_eq_ok, map_cons, eq_comm, map_eq_cons_iff] at h
  obtain ⟨s, B, rfl, hs, hB⟩ := h
  exact ⟨s, B, hs.symm, mapM_eq_ok.mpr hB.symm, rfl⟩

theorem mapM_ok_length {f : α → Except ε β} {xs : List α} {ys : List β} (h : xs.mapM f = .ok ys) : ys.length = xs.length := by
  simpa using (congrArg length (mapM_eq_ok.mp h)).symm

theorem mapM_ok_mem {f : α → Except ε β} {xs : List α} {ys : List β} (h : xs.mapM f = .ok ys) {x : α} (hx : x ∈ xs) :
    ∃ y ∈ ys, f x = .ok y := by
  have := mem_map_of_mem (f := f) hx
  rw [mapM_eq_ok.mp h, mem_map] at this
  obtain ⟨y, hy, e⟩ := this
  exact ⟨y, hy, e.symm⟩

theorem mapM_ok_mem_right {f : α → Except ε β} {xs : List α} {ys : List β} (h : xs.mapM f = .ok ys) {y : β} (hy : y ∈ ys) :
    ∃ x ∈ xs, f x = .ok y := by
  have := mem_map_of_mem (f := Except.ok (ε := ε)) hy
  rwa [← mapM_eq_ok.mp h, mem_map] at this

theorem mapM_edit_seg {f : α → Except ε β} {a b b' c : List α} {S S' : List β}
    (h : (a ++ b ++ c).mapM f = .ok S) (h' : (a ++ b' ++ c).mapM f = .ok S') :
    ∃ A B B' C, S = A ++ B ++ C ∧ S' = A ++ B' ++ C ∧ a.mapM f = .ok A ∧ b.mapM f = .ok B ∧ b'.mapM f = .ok B' ∧ c.mapM f = .ok C := by
  obtain ⟨AB, C, hAB, hC, rfl⟩ := mapM_ok_append h
  obtain ⟨A, B, hA, hB, rfl⟩ := mapM_ok_append hAB
  obtain ⟨AB', C', hAB', hC', rfl⟩ := mapM_ok_append h'
  obtain ⟨A', B', hA', hB', rfl⟩ := mapM_ok_append hAB'
  rw [hA] at hA'
  rw [hC] at hC'
  cases hA'
  cases hC'
  exact ⟨A, B, B', C, rfl, rfl, hA, hB, hB', hC⟩

theorem mapM_edit {f : α → Except ε β} {pre post : List α} {x x' : α} {S S' : List β}
    (h : (pre ++ x :: post).mapM f = .ok S) (h' : (pre ++ x' :: post).mapM f = .ok S') :
    ∃ A s s' B, S = A ++ s :: B ∧ S' = A ++ s' :: B ∧ pre.mapM f = .ok A ∧ f x = .ok s ∧ f x' = .ok s' ∧ post.mapM f = .ok B := by
  rw [List.append_cons] at h h'
  obtain ⟨A, X, X', B, rfl, rfl, hA, hX, hX', hB⟩ := mapM_edit_seg h h'
  obtain ⟨s, _, hs, hn, rfl⟩ := mapM_ok_cons hX
  obtain ⟨s', _, hs', hn', rfl⟩ := mapM_ok_cons hX'
  cases hn
  cases hn'
  exact ⟨A, s, s', B, by simp, by simp, hA, hs, hs', hB⟩

end List

theorem Except.map_eq_ok {ε α β : Type} {f : α → β} {x : Except ε α} {b : β} (h : x.map f = .ok b) : ∃ a, x = .ok a ∧ b = f a := by
  cases x with
  | error e => cases h
  | ok a => cases h; exact ⟨a, rfl, rfl⟩

theorem Except.isOk_map {ε α β : Type} (f : α → β) (x : Except ε α) : (x.map f).isOk = x.isOk := by
  cases x <;> rfl

theorem Except.bind_eq_ok {ε α β : Type} {x : Except ε α} {f : α → Except ε β} {b : β} :
    x >>= f = .ok b ↔ ∃ a, x = .ok a ∧ f a = .ok b := by
  cases x <;> simp [bind, Except.bind]
