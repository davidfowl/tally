/-
C03 — rule expressions are confined: no code execution, I/O or introspection.

Three obligations (DESIGN.md §5 C03):
 1. whitelist soundness — `validate_ast` accepts a tree iff EVERY node in it has a whitelisted kind
    (theorems below, for every tree), and the whitelist regenerated from the source contains only
    reviewed-safe kinds (`whitelist_reviewed`, a kernel-decided obligation over `Gen.ExprTables`);
 2. closure — the evaluator model's values are, by their type, only None/bool/int/float/str/date/
    timedelta/list/row/generator and the constants the language has no use for (bytes, complex,
    Ellipsis: `Val.other`, which keeps the name of the kind and nothing else): there is no constructor
    for types, functions, methods, modules, frames or code objects, and `eval` has no access to any
    Python object world.  That the model is faithful is what the payload correspondence checks on
    every run;
 3. capability table — every `getattr`/`hasattr`, import and dangerous builtin call in
    expr_parser.py, regenerated from source, is one of the reviewed ones (`capabilities_reviewed`),
    the evaluators can only evaluate whitelisted node kinds (`dispatch_closed`), and the only methods
    callable on an evaluated value are six literal string methods (`string_methods_closed`).
-/
import TallyVerif.Model.Sandbox
import TallyVerif.Gen.ExprTables

namespace TallyVerif.Props.C03
open TallyVerif.Sandbox TallyVerif.Gen

mutual
private theorem validate_eq_all (allowed : List String) : (t : Tree) → validate allowed t = (kinds t).all allowed.contains
  | .node k cs => by rw [validate, kinds, List.all_cons, validateAll_eq_all allowed cs]
private theorem validateAll_eq_all (allowed : List String) :
    (ts : List Tree) → validateAll allowed ts = (kindsAll ts).all allowed.contains
  | [] => rfl
  | t :: ts => by rw [validateAll, kindsAll, List.all_append, validate_eq_all allowed t, validateAll_eq_all allowed ts]
end

theorem validate_sound (allowed : List String) (t : Tree) (h : validate allowed t = true) :
    ∀ k ∈ kinds t, k ∈ allowed := by
  simpa [validate_eq_all] using h

theorem validateAll_sound (allowed : List String) (ts : List Tree) (h : validateAll allowed ts = true) :
    ∀ k ∈ kindsAll ts, k ∈ allowed := by
  simpa [validateAll_eq_all] using h

theorem validate_complete (allowed : List String) (t : Tree) (h : ∀ k ∈ kinds t, k ∈ allowed) :
    validate allowed t = true := by
  simpa [validate_eq_all] using h

theorem validateAll_complete (allowed : List String) (ts : List Tree) (h : ∀ k ∈ kindsAll ts, k ∈ allowed) :
    validateAll allowed ts = true := by
  simpa [validateAll_eq_all] using h

/-- accepted ⇔ only whitelisted node kinds anywhere in the tree (children, operators, contexts,
comprehension clauses, keyword / starred arguments, slices … included: they are nodes) -/
theorem validate_iff (allowed : List String) (t : Tree) :
    validate allowed t = true ↔ ∀ k ∈ kinds t, k ∈ allowed :=
  ⟨validate_sound allowed t, validate_complete allowed t⟩

/-- The node kinds reviewed as harmless for this evaluator.  NOT in the list (so adding any of them
to ALLOWED_NODES breaks `whitelist_reviewed`): Lambda, Dict, Set, List, Tuple, JoinedStr,
FormattedValue, Starred, Slice, keyword, Await, Yield, YieldFrom, SetComp, DictComp, Pow, FloorDiv,
bit operators, Is / IsNot, Invert, UAdd, every statement kind. -/
def reviewedSafeKinds : List String :=
  ["Expression", "BoolOp", "BinOp", "UnaryOp", "Compare", "Call", "IfExp", "And", "Or", "Not", "Add", "Sub", "Mult",
   "Div", "Mod", "USub", "Eq", "NotEq", "Lt", "LtE", "Gt", "GtE", "In", "NotIn", "Constant", "Name", "Load", "Store",
   "Attribute", "ListComp", "comprehension", "GeneratorExp", "Subscript", "Index", "NamedExpr"]

-- this and the table facts below are sweeps over the tables regenerated from expr_parser.py (`Gen.ExprTables`)
theorem whitelist_reviewed : ∀ k ∈ ExprTables.allowedNodes, k ∈ reviewedSafeKinds := by decide +kernel

/-- whatever validates against the code's whitelist contains only reviewed-safe node kinds -/
theorem accepted_trees_are_reviewed (t : Tree) (h : validate ExprTables.allowedNodes t = true) :
    ∀ k ∈ kinds t, k ∈ reviewedSafeKinds :=
  fun k hk => whitelist_reviewed k (validate_sound _ t h k hk)

/-- the reviewed capability entries (method, capability, detail) of expr_parser.py -/
def reviewedCaps : List (String × String × String) :=
  [("TransactionContext.get_function", "getattr-prefixed", "self._fn_*"),   -- guarded by `name in _FUNCTION_NAMES`
   ("TransactionContext._fn_fuzzy", "import", "difflib"),
   ("ExpressionEvaluator.evaluate", "hasattr-name", "self.<method>"),       -- `_eval_<NodeKind>` of a whitelisted kind
   ("ExpressionEvaluator.evaluate", "getattr-name", "self.<method>"),
   ("TransactionEvaluator.evaluate", "hasattr-name", "self.<method>"),
   ("TransactionEvaluator.evaluate", "getattr-name", "self.<method>"),
   ("TransactionEvaluator._eval_Attribute", "getattr-constant", "self.ctx.source"),
   ("TransactionEvaluator._eval_Attribute", "getattr-constant", "self.ctx.location"),
   ("module", "import", "ast"), ("module", "import", "re"), ("module", "import", "statistics"),
   ("module", "import", "warnings"), ("module", "import", "datetime"), ("module", "import", "typing")]

theorem capabilities_reviewed : ∀ c ∈ ExprTables.caps, c ∈ reviewedCaps := by decide +kernel

/-- every node kind one of the evaluators has an `_eval_` method for is whitelisted (the extra entry is the
helper `_eval_comprehension_loop`, not a node kind) -/
theorem dispatch_closed :
    (∀ k ∈ ExprTables.txnEvalMethods, k ∈ ExprTables.allowedNodes ∨ k = "comprehension_loop") ∧
    (∀ k ∈ ExprTables.viewEvalMethods, k ∈ ExprTables.allowedNodes) := by decide +kernel

/-- the string methods and the specially handled builtins of expr_parser.py, regenerated from the source, are the
literals that the `.callAttr` and `.callName` cases of `Expr.eval` list: no other method is callable on an evaluated value -/
theorem string_methods_closed :
    ExprTables.stringMethods = ["lower", "upper", "strip", "startswith", "endswith", "replace"] ∧
    ExprTables.specialCalls = ["exists", "len", "sum", "any", "all", "next", "min", "max"] := ⟨rfl, rfl⟩

/-- `_FUNCTION_NAMES` as regenerated from the source.  `Expr.eval` resolves the special builtins, `abs`, `round` and the
names in `ctx.functionNames`, and answers "Unknown function" for every other name; that field is filled with this
table by the driver (`Driver/Expr.lean`), no theorem says so -/
theorem function_names_reviewed :
    ExprTables.functionNames = ["abs", "anyof", "contains", "extract", "fuzzy", "lowercase", "normalized", "regex",
      "regex_replace", "round", "split", "startswith", "strip_prefix", "strip_suffix", "substring", "trim", "uppercase"] := rfl

/-- non-vacuity: a tree with a `Lambda` deep inside a comprehension is rejected, the same tree without it is accepted -/
example :
    validate ExprTables.allowedNodes (.node "Expression" [.node "ListComp" [.node "Name" [.node "Load" []],
      .node "comprehension" [.node "Name" [.node "Store" []], .node "Lambda" []]]]) = false ∧
    validate ExprTables.allowedNodes (.node "Expression" [.node "ListComp" [.node "Name" [.node "Load" []],
      .node "comprehension" [.node "Name" [.node "Store" []], .node "Name" [.node "Load" []]]]]) = true := by
  decide +kernel

end TallyVerif.Props.C03
