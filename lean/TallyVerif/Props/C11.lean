/-
C11 — `tally up` honours every setting: report = totals(classify(parse(sources))).

The executable composition is `Model/Pipeline.lean` + `Driver/Pipeline.lean` (C05's parser, the
engine of C01/C02/C08/C09, C06's totals), tied end to end to `python -m tally up --format json`.
Here: the structural laws of that composition, for ARBITRARY per-source parse-and-classify
functions (so for every format, delimiter, header, decimal, sign, rules, mode, transforms and
supplemental data) over exact amounts — they are consequences of C06's permutation and partition
theorems.  The loop of `cmd_run` itself is `Pipeline.upLoop` (what the driver runs); `upLoop_eq_composition` /
`up_report_eq_runUp` prove it IS that composition for EVERY classifier, so the laws hold for the modelled command on
`.rules`, legacy-CSV (`merchant_categories.csv`) and rule-less budgets alike; the section "Legacy CSV rule files" adds
what is specific to the legacy classifier (which part of the world it reads; first match and tags end to end).
Before that: reading a source can fail, per source (`runUpIO`), and a supplemental file damaged in one line or odd in one cell
loses no other row and no other field (`loadLenient`, `decRow`).
The last section ("Settings resolution") starts at the SETTINGS OBJECT: `Config.resolveConfig` (load_config), `Config.planSources`
(which parser calls cmd_run makes, with which arguments), `Config.readArgs` (what the reader makes of them) and the composition
`PipelineCfg.upFromSettings`; defaults, rule mode, rules-file selection, error locality and setting locality are proved there.
PARTIAL: argparse, the YAML parser itself (yaml.safe_load: the loaded object is the input), the two deprecated parsers
(parse_amex / parse_boa: their rows are a parameter) and printing are not modelled.
-/
import TallyVerif.Props.C06
import TallyVerif.Props.C02
import TallyVerif.Lemmas.Config
import TallyVerif.Lemmas.Pipeline

namespace TallyVerif.Props.C11
open TallyVerif TallyVerif.Totals TallyVerif.Props.C06

variable {S : Type}

/-- `tally up`: every non-supplemental source is parsed and classified with ITS OWN settings
(`txns s`), in configuration order, and the concatenation is totalled -/
def runUp (lower : String → String) (supplemental : S → Bool) (txns : S → List T) (sources : List S) : Stats Int :=
  analyze N lower ((sources.filter (fun s => !supplemental s)).flatMap txns)

/-- a source that is supplemental, missing, unreadable or empty contributes no transaction -/
def Silent (supplemental : S → Bool) (txns : S → List T) (s : S) : Prop := supplemental s = true ∨ txns s = []

/-- what reaches the totals: the transactions of the ordinary sources, in configuration order -/
private def feed {α : Type} (supplemental : S → Bool) (txns : S → List α) (sources : List S) : List α :=
  (sources.filter (fun s => !supplemental s)).flatMap txns

private theorem feed_append {α : Type} (supplemental : S → Bool) (txns : S → List α) (a b : List S) :
    feed supplemental txns (a ++ b) = feed supplemental txns a ++ feed supplemental txns b := by
  simp only [feed, List.filter_append, List.flatMap_append]

private theorem feed_insert {α : Type} (supplemental : S → Bool) (txns : S → List α) (pre post : List S) (s : S) :
    feed supplemental txns (pre ++ s :: post) =
      feed supplemental txns pre ++ ((if supplemental s then [] else txns s) ++ feed supplemental txns post) := by
  rw [feed_append]
  cases hs : supplemental s <;> simp [feed, hs]

private theorem feed_silent {α : Type} (supplemental : S → Bool) (txns : S → List α) (pre post : List S) (s : S)
    (h : supplemental s = true ∨ txns s = []) :
    feed supplemental txns (pre ++ s :: post) = feed supplemental txns (pre ++ post) := by
  rw [feed_insert, feed_append]
  rcases h with h | h <;> simp [h]

/-- a silent source leaves the whole report exactly as it is without it -/
theorem silent_source_neutral (lower : String → String) (supplemental : S → Bool) (txns : S → List T)
    (pre post : List S) (s : S) (h : Silent supplemental txns s) :
    runUp lower supplemental txns (pre ++ s :: post) = runUp lower supplemental txns (pre ++ post) :=
  congrArg (analyze N lower) (feed_silent supplemental txns pre post s h)

/-- **Locality.** The money-flow figures and counts of a report are those of the report without
source `s` plus those of `s` alone: changing one source, or one setting of it (anything that only
changes `txns s`), changes only that source's share. -/
theorem source_local (lower : String → String) (supplemental : S → Bool) (txns : S → List T)
    (pre post : List S) (s : S) (hs : supplemental s = false) :
    flowOf (runUp lower supplemental txns (pre ++ s :: post)) =
      ⟨(runUp lower supplemental txns (pre ++ post)).income + (analyze N lower (txns s)).income,
       (runUp lower supplemental txns (pre ++ post)).spending + (analyze N lower (txns s)).spending,
       (runUp lower supplemental txns (pre ++ post)).credits + (analyze N lower (txns s)).credits,
       (runUp lower supplemental txns (pre ++ post)).transfersIn + (analyze N lower (txns s)).transfersIn,
       (runUp lower supplemental txns (pre ++ post)).transfersOut + (analyze N lower (txns s)).transfersOut,
       (runUp lower supplemental txns (pre ++ post)).investment + (analyze N lower (txns s)).investment,
       (runUp lower supplemental txns (pre ++ post)).count + (analyze N lower (txns s)).count,
       (runUp lower supplemental txns (pre ++ post)).total + (analyze N lower (txns s)).total⟩ := by
  -- move the source's transactions to the end (C06: order is irrelevant), then split there (C06: totals add)
  have hp : (feed supplemental txns (pre ++ s :: post)).Perm (feed supplemental txns (pre ++ post) ++ txns s) := by
    rw [feed_insert, hs, if_neg Bool.false_ne_true, feed_append, List.append_assoc]
    exact List.Perm.append_left _ List.perm_append_comm
  exact (analyze_perm lower hp).1.trans (analyze_append lower _ (txns s)).1

/-- two settings families that agree on every source but `s` give the same report once `s` is left out — so that, by
`source_local`, the two full reports differ only by that source's share -/
theorem setting_local (lower : String → String) (supplemental : S → Bool) (txns txns' : S → List T)
    (pre post : List S) (s : S) (hs : supplemental s = false)
    (hagree : ∀ x ∈ pre ++ post, txns x = txns' x) :
    runUp lower supplemental txns (pre ++ post) = runUp lower supplemental txns' (pre ++ post) := by
  unfold runUp
  congr 1
  simp only [List.flatMap_def]
  rw [List.map_congr_left fun x hx => hagree x (List.mem_filter.mp hx).1]

/-- the order in which sources are configured does not change any figure -/
theorem source_order_irrelevant (lower : String → String) (supplemental : S → Bool) (txns : S → List T)
    {srcs srcs' : List S} (p : srcs.Perm srcs') :
    flowOf (runUp lower supplemental txns srcs) = flowOf (runUp lower supplemental txns srcs') ∧
    (∀ k, (runUp lower supplemental txns srcs).byMerchant.lookup k = (runUp lower supplemental txns srcs').byMerchant.lookup k) ∧
    (∀ k, (runUp lower supplemental txns srcs).byCategory.lookup k = (runUp lower supplemental txns srcs').byCategory.lookup k) ∧
    (∀ k, (runUp lower supplemental txns srcs).byMonth.lookup k = (runUp lower supplemental txns srcs').byMonth.lookup k) := by
  unfold runUp
  exact analyze_perm lower ((p.filter _).flatMap_right txns)

/-- exactly the transactions of the non-supplemental sources are in the report -/
theorem report_count (lower : String → String) (supplemental : S → Bool) (txns : S → List T) (sources : List S) :
    (runUp lower supplemental txns sources).count =
      ((sources.filter (fun s => !supplemental s)).map (fun s => (txns s).length)).sum := by
  unfold runUp
  obtain ⟨-, -, -, -, -, hcount⟩ := groupings_conserve lower ((sources.filter fun s => !supplemental s).flatMap txns)
  rw [hcount, List.length_flatMap]

/-! ### Reading a source can FAIL (`cmd_run`'s `try … except Exception: continue`, `load_supplemental_sources`' "skip sources
that can't be loaded").  Not totalised away: `read` / `readSupp` return `Except`, the pipeline catches PER SOURCE. -/

variable {E R : Type}

/-- what the rule expressions can query: the supplemental sources that could be loaded, in configuration order -/
def suppData (supplemental : S → Bool) (readSupp : S → Except E R) (sources : List S) : List R :=
  (sources.filter supplemental).filterMap (fun s => match readSupp s with | .ok r => some r | .error _ => none)

/-- `except Exception: continue`: a read that raises yields no transaction -/
def orNil : Except E (List T) → List T
  | .ok l => l
  | .error _ => []

/-- `tally up` with fallible I/O: the supplemental tables that load are handed to every ordinary source's
parse-and-classify step `read`; an ordinary source whose read raises is reported and yields no transaction -/
def runUpIO (lower : String → String) (supplemental : S → Bool) (readSupp : S → Except E R)
    (read : List R → S → Except E (List T)) (sources : List S) : Stats Int :=
  runUp lower supplemental (fun s => orNil (read (suppData supplemental readSupp sources) s)) sources

/-- an ORDINARY source that exists but cannot be read (wrong encoding, a directory, permission denied …) leaves the
report exactly as it is without that source: the run completes and no other figure moves -/
theorem unreadable_source_neutral (lower : String → String) (supplemental : S → Bool) (readSupp : S → Except E R)
    (read : List R → S → Except E (List T)) (pre post : List S) (s : S) (hs : supplemental s = false)
    (hfail : ∀ d, ∃ e, read d s = .error e) :
    runUpIO lower supplemental readSupp read (pre ++ s :: post) = runUpIO lower supplemental readSupp read (pre ++ post) := by
  have hd : suppData supplemental readSupp (pre ++ s :: post) = suppData supplemental readSupp (pre ++ post) := by
    simp [suppData, List.filter_append, hs]
  unfold runUpIO
  rw [hd]
  apply silent_source_neutral
  right
  obtain ⟨e, he⟩ := hfail (suppData supplemental readSupp (pre ++ post))
  simp [he, orNil]

/-- a SUPPLEMENTAL source that exists but cannot be loaded is as if it were not configured: same queryable data,
same report — in particular the run is not aborted -/
theorem unreadable_supplemental_neutral (lower : String → String) (supplemental : S → Bool) (readSupp : S → Except E R)
    (read : List R → S → Except E (List T)) (pre post : List S) (s : S) (hs : supplemental s = true)
    (e : E) (hfail : readSupp s = .error e) :
    runUpIO lower supplemental readSupp read (pre ++ s :: post) = runUpIO lower supplemental readSupp read (pre ++ post) := by
  have hd : suppData supplemental readSupp (pre ++ s :: post) = suppData supplemental readSupp (pre ++ post) := by
    simp [suppData, List.filter_append, hs, hfail]
  unfold runUpIO
  rw [hd]
  exact silent_source_neutral lower supplemental _ pre post s (Or.inl hs)

/-- a supplemental source is QUERY-ONLY: whatever it contains, it adds no transaction; it can change the report only
through what `read` does with the table -/
theorem supplemental_query_only (lower : String → String) (supplemental : S → Bool) (readSupp : S → Except E R)
    (read : List R → S → Except E (List T)) (pre post : List S) (s : S) (hs : supplemental s = true)
    (hignored : ∀ d d' x, read d x = read d' x) :
    runUpIO lower supplemental readSupp read (pre ++ s :: post) = runUpIO lower supplemental readSupp read (pre ++ post) := by
  unfold runUpIO
  rw [show (fun x => orNil (read (suppData supplemental readSupp (pre ++ s :: post)) x)) =
        (fun x => orNil (read (suppData supplemental readSupp (pre ++ post)) x)) from
      funext fun x => by rw [hignored _ (suppData supplemental readSupp (pre ++ post)) x]]
  exact silent_source_neutral lower supplemental _ pre post s (Or.inl hs)

/-! non-vacuity of `runUp` / `Silent`: four sources, one supplemental, one empty -/
inductive Src | bank | card | orders | missing
deriving DecidableEq
def supp : Src → Bool | .orders => true | _ => false
def tx : Src → List T
  | .bank => [⟨-10000, some ["income"], "Emp", "Income", "", "2025-01"⟩, ⟨2500, none, "Shop", "Food", "", "2025-01"⟩]
  | .card => [⟨4200, some [], "Shop", "Food", "", "2025-02"⟩]
  | .orders => [⟨999, none, "Order", "X", "", "2025-02"⟩]
  | .missing => []
example : flowOf (runUp asciiLower supp tx [.bank, .orders, .missing, .card]) = ⟨10000, 6700, 0, 0, 0, 0, 3, -3300⟩ := by
  decide +kernel
example : Silent supp tx .orders ∧ Silent supp tx .missing := ⟨Or.inl rfl, Or.inr rfl⟩

/-! non-vacuity of the I/O theorems: `.missing` raises when read, the `.orders` table cannot be loaded, and still the
bank and card figures are exactly those of the two-source budget -/
def rd (_ : List Nat) : Src → Except String (List T)
  | .missing => .error "'utf-8' codec can't decode byte 0xe9"
  | s => .ok (tx s)
def rdSupp : Src → Except String Nat
  | .orders => .error "[Errno 21] Is a directory"
  | _ => .ok 0
example : (∀ d, ∃ e, rd d .missing = .error e) ∧ rdSupp .orders = .error "[Errno 21] Is a directory" :=
  ⟨fun _ => ⟨_, rfl⟩, rfl⟩
example : flowOf (runUpIO asciiLower supp rdSupp rd [.bank, .orders, .missing, .card]) =
    flowOf (runUpIO asciiLower supp rdSupp rd [.bank, .card]) := by
  decide +kernel

/-! ### A supplemental file DAMAGED IN ONE PLACE (a few bytes that are not UTF-8 in one line).
`load_supplemental_sources` reads line by line and leniently (`errors='replace'`): EVERY line becomes a row — `dec` is total, the
offending bytes become U+FFFD inside their own cell — and blank lines are skipped (`keep`).  So what one line contains cannot take
away the row of another line, and a query that an intact row answers stays answered.  A loader that decodes strictly loses the
whole table to one bad line (`strict_loader_loses_intact_rows`): that is the regression class the damaged-file stream of the check
looks for on the real code.  (Trusted, and exactly what that stream tests: bytes that are not UTF-8 are ≥ 0x80, so replacing them
moves no line break and no delimiter.) -/

section damaged
variable {L Row : Type}

/-- the table of a supplemental file: one row per non-blank line -/
def loadLenient (dec : L → Row) (keep : L → Bool) (lines : List L) : List Row := (lines.filter keep).map dec

/-- the table is assembled line by line: the rows before, the row (if any) of the line itself, the rows after -/
theorem load_line_local (dec : L → Row) (keep : L → Bool) (pre post : List L) (l : L) :
    loadLenient dec keep (pre ++ l :: post) = loadLenient dec keep pre ++ (loadLenient dec keep [l] ++ loadLenient dec keep post) := by
  unfold loadLenient
  by_cases h : keep l = true <;> simp [List.filter_append, h]

/-- **Readable rows survive.** Whatever ONE line of the file is replaced by (or whatever line is inserted), every row that comes
from another line is still in the table -/
theorem readable_rows_survive (dec : L → Row) (keep : L → Bool) (pre post : List L) (l : L) (row : Row)
    (h : row ∈ loadLenient dec keep (pre ++ post)) : row ∈ loadLenient dec keep (pre ++ l :: post) :=
  -- the table without the line is a sublist of the table with it
  ((((List.Sublist.refl pre).append (List.sublist_cons_self l post)).filter keep).map dec).subset h

/-- a rule's query `any(p(r) for r in table)` that an intact row answers is answered whatever the damaged line holds -/
theorem query_answered_by_intact_row (dec : L → Row) (keep : L → Bool) (pre post : List L) (l : L) (p : Row → Bool)
    (h : (loadLenient dec keep (pre ++ post)).any p = true) : (loadLenient dec keep (pre ++ l :: post)).any p = true := by
  obtain ⟨row, hm, hp⟩ := List.any_eq_true.mp h
  exact List.any_eq_true.mpr ⟨row, readable_rows_survive dec keep pre post l row hm, hp⟩

/-- the lenient table as the supplemental read of `runUpIO`: it always loads -/
def readLenient (file : S → List L) (dec : L → Row) (keep : L → Bool) (s : S) : Except E (List Row) := .ok (loadLenient dec keep (file s))

/-- …so a supplemental source is among the queryable tables whatever its lines contain -/
theorem lenient_table_is_queryable (supplemental : S → Bool) (file : S → List L) (dec : L → Row) (keep : L → Bool)
    (pre post : List S) (s : S) (hs : supplemental s = true) :
    loadLenient dec keep (file s) ∈ suppData supplemental (readLenient (E := E) file dec keep) (pre ++ s :: post) := by
  simp only [suppData, readLenient, List.filter_append, List.filter_cons, hs, List.filterMap_append, List.filterMap_cons, if_true]
  exact List.mem_append_right _ (List.mem_cons_self ..)

/-- a STRICT loader (one undecodable line ⇒ the read raises ⇒ "skip sources that can't be loaded") -/
def loadStrict (valid : L → Bool) (dec : L → Row) (keep : L → Bool) (lines : List L) : Except Unit (List Row) :=
  if lines.all valid then .ok (loadLenient dec keep lines) else .error ()

/-- non-vacuity and the contrast: lines are (item, amount, valid-UTF-8?) — the rule asks for amount 1599; the second line is
damaged.  Lenient: the query is answered by the intact first row.  Strict: there is no table at all. -/
def lenientDemo : List (String × Nat × Bool) := [("Book", 1599, true), ("Caf\uFFFD", 500, false), ("Ink", 250, true)]
example : (loadLenient (fun l => (l.1, l.2.1)) (fun _ => true) lenientDemo).any (fun r => r.2 == 1599) = true := by decide +kernel
example : (loadLenient (fun l => (l.1, l.2.1)) (fun _ => true) [lenientDemo[0], lenientDemo[2]]).any (fun r => r.2 == 1599) = true := by
  decide +kernel
theorem strict_loader_loses_intact_rows :
    (loadStrict (fun l => l.2.2) (fun l => (l.1, l.2.1)) (fun _ => true) lenientDemo).toOption = none := by decide +kernel

end damaged

/-! ### A supplemental file with ONE ODD CELL (readable text: an empty / blank / textual date, an amount that is no number, a line
with fewer or more cells).  `load_supplemental_sources` builds a row FIELD BY FIELD: for every entry `(field, column)` of the column
map it takes the cell at that column — a line too short for the column simply lacks the field — and converts it with a TOTAL
conversion (`conv`: a date cell that does not parse stays a string, an amount cell that is no number becomes 0.0).  Hence `decRow` is
a total `dec` for `loadLenient` (no cell can cost another ROW: `readable_rows_survive`), and within the row a cell only reaches the
fields of its own column (`odd_cell_field_local`): the amount of an order whose DATE cell is empty is still its amount, and a query
on amounts is still answered by that row.  A loader whose cell conversion can raise out of the row loop loses the whole table to
one cell (`raising_cell_loader_loses_the_table`): that is the regression class the odd-cell stream of the check looks for on the
real code. -/

section oddcell
variable {V : Type}

/-- one row of a supplemental table: every field of the column map whose column the line has, converted cell by cell -/
def decRow (conv : String → String → V) (cols : List (String × Nat)) (line : List String) : List (String × V) :=
  cols.filterMap fun fc => (line[fc.2]?).map fun c => (fc.1, conv fc.1 c)

/-- replacing the cell at column `j` leaves every field that is read from another column as it was -/
theorem odd_cell_field_local (conv : String → String → V) (cols : List (String × Nat)) (line : List String) (j : Nat) (c : String)
    (name : String) (h : ∀ fc ∈ cols, fc.1 = name → fc.2 ≠ j) :
    (decRow conv cols (line.set j c)).lookup name = (decRow conv cols line).lookup name := by
  induction cols with
  | nil => rfl
  | cons fc rest ih =>
    have ih' := ih fun x hx => h x (List.mem_cons_of_mem _ hx)
    unfold decRow at ih' ⊢
    rw [List.filterMap_cons, List.filterMap_cons]
    by_cases hn : fc.1 = name
    · -- the field asked for is read from another column: the same cell before and after
      rw [List.getElem?_set_ne (h fc (List.mem_cons_self ..) hn).symm]
      cases line[fc.2]? <;> simp [List.lookup, ih']
    · -- another field: the lookup skips it, present or not
      have hne : (name == fc.1) = false := beq_eq_false_iff_ne.mpr fun e => hn e.symm
      cases (line.set j c)[fc.2]? <;> cases line[fc.2]? <;> simp [List.lookup, hne, ih']

/-- the column map of the orders file of the check: `{date},{item},{amount}` -/
def orderCols : List (String × Nat) := [("item", 1), ("date", 0), ("amount", 2)]

/-- **an odd DATE cell does not touch the amount**: whatever stands in column 0, the row's `amount` is the conversion of column 2 -/
theorem amount_survives_odd_date (conv : String → String → V) (line : List String) (c : String) :
    (decRow conv orderCols (line.set 0 c)).lookup "amount" = (decRow conv orderCols line).lookup "amount" :=
  odd_cell_field_local conv orderCols line 0 c "amount" (by decide)

/-- `float()` as an oracle table (external functions are parameters): the cells that are numbers -/
def numDemo : List (String × Nat) := [("1599", 1599), ("31000", 31000), ("250", 250)]

/-- cell conversion as the loader does it (dates and amounts as text / cents here): a date that does not parse stays a string
(`none`), an amount that is no number is 0 -/
def convDemo (field cell : String) : Option Nat :=
  if field == "amount" then some ((numDemo.lookup cell).getD 0) else if field == "date" then (if cell == "" then none else some 1) else some 0

/-- a loader whose date conversion RAISES out of the row loop on an empty cell ("skip sources that can't be loaded") -/
def loadRaising (lines : List (List String)) : Except Unit (List (List (String × Option Nat))) :=
  if lines.all (fun l => l[0]? != some "") then .ok (loadLenient (decRow convDemo orderCols) (fun l => !l.isEmpty) lines) else .error ()

def oddDemo : List (List String) := [["2025-01-05", "Book", "1599"], ["", "Garden hose (pending)", "31000"], ["2025-02-01", "Ink", "250"]]

/-- non-vacuity: with the pending order (no date) in the file, the lenient cell-by-cell loader still answers the query for 1599 —
and for 31000, the amount of the odd row itself; the raising loader has no table -/
example : (loadLenient (decRow convDemo orderCols) (fun l => !l.isEmpty) oddDemo).any (fun r => r.lookup "amount" == some (some 1599)) = true := by
  decide +kernel
example : (loadLenient (decRow convDemo orderCols) (fun l => !l.isEmpty) oddDemo).any (fun r => r.lookup "amount" == some (some 31000)) = true := by
  decide +kernel
/-- a line with fewer cells lacks the fields it has no cell for, and is a row all the same -/
example : decRow convDemo orderCols ["Subtotal"] = [("date", some 1)] := by decide +kernel
theorem raising_cell_loader_loses_the_table : (loadRaising oddDemo).toOption = none := by decide +kernel

end oddcell

/-! ### The modelled command IS that composition — for every classifier (`.rules` engine, legacy CSV tuples, no rules)

`Pipeline.upLoop classify sources` is the loop of `cmd_run` the driver executes (op `pipeline`, compared with
`python -m tally up`); `classify` is ANY function of a parsed row — in the driver `Pipeline.classifyRow … rb`, whose
`Rulebook` is a `.rules` engine, a legacy `merchant_categories.csv` tuple list (`rb.legacy = some …`) or nothing.  The
theorems below are therefore statements about all three kinds of budget at once; the legacy case is an instance
(`legacyBook` below), not a separate development. -/

section pipeline
open TallyVerif.Pipeline TallyVerif.Py

/-- row-by-row classification distributes over concatenation (first failure first) -/
theorem classifyAll_append (classify : Row → Except Err Classified) (a b : List Row) :
    classifyAll classify (a ++ b) =
      (do let x ← classifyAll classify a; let y ← classifyAll classify b; pure (x ++ y)) := by
  simp only [classifyAll_eq_mapM, List.mapM_append]

/-- **`tally up` = classify ∘ concat ∘ parse**, exactly: the transaction list `cmd_run` builds is the row-by-row
classification of the concatenation, in configuration order, of what each NON-supplemental source's parser returned (a
missing or unreadable source returning nothing) — for every classifier, hence for `.rules`, legacy-CSV and rule-less
budgets alike.  If the model declines a row (`.error`), both sides decline with the same first failure. -/
theorem upLoop_eq_composition (classify : Row → Except Err Classified) (sources : List Source) :
    upLoop classify sources =
      classifyAll classify ((sources.filter (fun s => !s.supplemental)).flatMap Source.rows) := by
  unfold upLoop
  rw [foldl_upStep, classifyAll_eq_mapM]
  cases List.mapM classify _ <;> rfl

/-- `classify` answers (does not decline) on every row of every ordinary source, and `cl` is what it answers -/
def Classifies (classify : Row → Except Err Classified) (cl : Row → Classified) (sources : List Source) : Prop :=
  ∀ s ∈ sources, s.supplemental = false → ∀ r ∈ s.rows, classify r = .ok (cl r)

theorem classifyAll_total (classify : Row → Except Err Classified) (cl : Row → Classified) (rows : List Row)
    (h : ∀ r ∈ rows, classify r = .ok (cl r)) : classifyAll classify rows = .ok (rows.map cl) := by
  rw [classifyAll_eq_mapM, List.mapM_eq_ok, List.map_map]
  exact List.map_congr_left h

/-- a run that completes classifies every row of every ordinary source: `Classifies` is exactly "the model does not
decline on this budget" -/
theorem classifies_of_run (classify : Row → Except Err Classified) (sources : List Source) (cls : List Classified)
    (h : upLoop classify sources = .ok cls) : ∃ cl, Classifies classify cl sources := by
  rw [upLoop_eq_composition, classifyAll_eq_mapM] at h
  refine ⟨fun r => match classify r with | .ok c => c | .error _ => ⟨"", "", "", [], 0, ""⟩, ?_⟩
  intro s hs hsupp r hr
  obtain ⟨c, _, hc⟩ := List.mapM_ok_mem h
    (List.mem_flatMap.mpr ⟨s, List.mem_filter.mpr ⟨hs, by simp [hsupp]⟩, hr⟩)
  simp only [hc]

/-- the transactions of one source as the report sees them, amounts read exactly (`cents`) -/
def txnsOf (cents : UInt64 → Int) (cl : Row → Classified) (s : Source) : List T :=
  s.rows.map (fun r => toTotalsG cents (cl r))

/-- **The report of the modelled command is `runUp`** (the composition all theorems above are about), with
`txns s` = the classified rows of source `s`: `analyze ∘ map classify ∘ concat ∘ map parse` on the non-supplemental
sources.  Amounts are read exactly (`cents` is any reading of the amount's bit pattern as integer cents; the driver
runs the same `reportG` over IEEE doubles).  Holds for every classifier that answers on the budget's rows. -/
theorem up_report_eq_runUp (lower : String → String) (cents : UInt64 → Int) (classify : Row → Except Err Classified)
    (cl : Row → Classified) (sources : List Source) (h : Classifies classify cl sources) :
    (upLoop classify sources).map (reportG intNum lower cents) =
      .ok (runUp lower (fun s : Source => s.supplemental) (txnsOf cents cl) sources) := by
  rw [upLoop_eq_composition, classifyAll_total classify cl]
  · simp only [Except.map, reportG, runUp, List.map_flatMap, List.map_map]
    rfl
  · intro r hr
    obtain ⟨s, hs, hrs⟩ := List.mem_flatMap.mp hr
    have hf := List.mem_filter.mp hs
    exact h s hf.1 (by simpa using hf.2) r hrs

/-- **Per-source locality of the modelled command** (any classifier): the run on all sources, the run without source
`s` and the run on `s` alone all complete, and every money-flow figure and count of the first is the sum of the other
two. -/
theorem up_source_local (lower : String → String) (cents : UInt64 → Int) (classify : Row → Except Err Classified)
    (cl : Row → Classified) (pre post : List Source) (s : Source) (hs : s.supplemental = false)
    (h : Classifies classify cl (pre ++ s :: post)) :
    ∃ whole rest own,
      (upLoop classify (pre ++ s :: post)).map (reportG intNum lower cents) = .ok whole ∧
      (upLoop classify (pre ++ post)).map (reportG intNum lower cents) = .ok rest ∧
      (upLoop classify [s]).map (reportG intNum lower cents) = .ok own ∧
      flowOf whole = ⟨rest.income + own.income, rest.spending + own.spending, rest.credits + own.credits,
        rest.transfersIn + own.transfersIn, rest.transfersOut + own.transfersOut, rest.investment + own.investment,
        rest.count + own.count, rest.total + own.total⟩ := by
  refine ⟨_, _, _, up_report_eq_runUp lower cents classify cl _ h,
    up_report_eq_runUp lower cents classify cl _ fun x hx => h x ?_,
    up_report_eq_runUp lower cents classify cl _ fun x hx => h x ?_, ?_⟩
  · exact (List.mem_append.mp hx).elim (List.mem_append_left _) fun hx => List.mem_append_right _ (List.mem_cons_of_mem _ hx)
  · exact List.mem_singleton.mp hx ▸ List.mem_append_right _ (List.mem_cons_self ..)
  · have hown : runUp lower (fun s : Source => s.supplemental) (txnsOf cents cl) [s] = analyze N lower (txnsOf cents cl s) := by
      simp [runUp, hs]
    rw [hown]
    exact source_local lower (fun s : Source => s.supplemental) (txnsOf cents cl) pre post s hs

/-- **A source that contributes no row is neutral for the modelled command** (any classifier): supplemental, missing
/ unreadable (`parsed = none`) or empty — the transaction list is literally the one of the budget without it. -/
theorem up_silent_source_neutral (classify : Row → Except Err Classified) (pre post : List Source) (s : Source)
    (h : s.supplemental = true ∨ s.rows = []) :
    upLoop classify (pre ++ s :: post) = upLoop classify (pre ++ post) := by
  rw [upLoop_eq_composition, upLoop_eq_composition]
  exact congrArg _ (feed_silent (fun s : Source => s.supplemental) Source.rows pre post s h)

end pipeline

/-! ### Legacy CSV rule files (`merchant_categories.csv`) as an instance

`Pipeline.classifyRow` with `rb.hasEngine = false` and `rb.legacy = some lb` is `normalize_merchant` on the tuple loop
(`Rules.legacy`, C01/C02) over the per-tuple test of `Pipeline.legacyOutcome`.  Everything in the previous section
applies to it verbatim (it is one more `classify`).  What is SPECIFIC to the legacy case is which part of the world
the classifier reads: the supplemental rows reach a tuple only through an expression-shaped Pattern cell
(`matches_transaction(pattern, transaction, data_sources=…)`); the regex arm, the modifiers and the `{expr}` tags
(`_resolve_dynamic_tags(tags, transaction)`) never see them. -/

section legacy
open TallyVerif.Pipeline TallyVerif.Py TallyVerif.Expr TallyVerif.Rules TallyVerif.Engine

/-- no Pattern cell of the file is expression-shaped (`_is_expression_pattern` is false on every tuple) -/
def PlainPatterns (lb : LegacyBook) : Prop := ∀ r ∈ lb.rules, isExpressionPattern r.rule.pattern r.patternE = false

instance (lb : LegacyBook) : Decidable (PlainPatterns lb) := by unfold PlainPatterns; infer_instance

/-- **A legacy budget whose Pattern cells are all regular expressions classifies every transaction without looking
at the supplemental rows** — whatever they are, including none (and so does a budget without rules file:
`rb.legacy = none`).  The guard is exact: see `legacy_expression_pattern_reads_supplemental`. -/
theorem legacy_plain_ignores_supplemental (o : Oracles) (fnames : List String) (key : Rule → Key)
    (supp supp' : List (String × Val)) (rb : Rulebook) (row : Row) (hE : rb.hasEngine = false)
    (hplain : ∀ lb, rb.legacy = some lb → PlainPatterns lb) :
    classifyRow o fnames key supp rb row = classifyRow o fnames key supp' rb row := by
  unfold classifyRow
  simp only [hE, Bool.not_false, if_true]
  cases hl : rb.legacy with
  | none => rfl
  | some lb =>
    simp only [classifyLegacy, legacyEvalRules_plain o fnames lb.cutoff supp supp' _ lb.rules (hplain lb hl)]

/-- **Supplemental sources are query-only for the modelled command on such a budget**: configuring one more
supplemental source — `supp` / `supp'` are the tables the loader hands over with and without it — leaves the
transaction list of `tally up` literally unchanged.  (What `supplemental_query_only` says under its hypothesis `hignored`;
here `legacy_plain_ignores_supplemental` discharges it for the legacy classifier.) -/
theorem legacy_supplemental_query_only (o : Oracles) (fnames : List String) (key : Rule → Key)
    (supp supp' : List (String × Val)) (rb : Rulebook) (pre post : List Source) (s : Source)
    (hs : s.supplemental = true) (hE : rb.hasEngine = false) (hplain : ∀ lb, rb.legacy = some lb → PlainPatterns lb) :
    upLoop (classifyRow o fnames key supp rb) (pre ++ s :: post) = upLoop (classifyRow o fnames key supp' rb) (pre ++ post) := by
  rw [up_silent_source_neutral _ pre post s (Or.inl hs)]
  congr 1
  funext row
  exact legacy_plain_ignores_supplemental o fnames key supp supp' rb row hE hplain

/-! kernel-checked legacy budget: `Pattern,Merchant,Category,Subcategory,Tags`

    UBER[amount>15.99][month=1],Uber Big,Transport,Rideshare,Business|{source}
    UBER,Uber,Transport,,
    EATS,,,,food|business|{}
    (any(r.item == "Book" for r in orders)),Ordered,Orders,,
    LYFT and UBER,Never,X,,          -- looks like an expression, is a regular expression after all
-/

/-- what a classification says (merchant, category, subcategory, tags, month); `none`: the model declines -/
def classTag (x : Except Err Classified) : Option (String × String × String × List String × String) :=
  x.toOption.map fun c => (c.merchant, c.category, c.subcategory, c.tags, c.month)

/-- as one constant: spelt out for every conjunct, the instance of a vector below exceeds the size at which instance synthesis
gives up, and a vector proved conjunct by conjunct decodes the book's string literals once per conjunct -/
local instance : DecidableEq (String × String × String × List String × String) := inferInstance

/-- oracles of the examples: on metacharacter-free patterns `re.search` is substring search; nothing else is consulted -/
def subOracles : Oracles := ⟨fun _ => none, fun _ => none, fun p x => some (some (strContains p x)), fun _ _ => none,
  fun _ _ _ => none, fun _ _ => none, fun _ => none, fun _ => none, fun _ _ => none, fun _ _ => none⟩
def key0 : Rule → Key := fun r => ⟨r.priority, 0, 0, 0⟩

/-- the doubles 15.99 and 16.0 -/
def b1599 : UInt64 := 0x402FFAE147AE147B
def b1600 : UInt64 := 0x4030000000000000

def anyBook : Expr :=
  .callNameGen "any" (.cmp (.attrName "r" "item") [.mk .eq (.const (.str "Book"))]) [.mk (some "r") (.name "orders") []] []

def legacyBook : LegacyBook :=
  { rules := [
      { rule := ⟨0, "UBER", "Uber Big", "Transport", "Rideshare", "user"⟩, patternE := none,
        mods := ⟨[.gt ⟨(unitsOfBits b1599).getD 0, []⟩], [.month 1]⟩, tags := [.static "Business", .dynamic (some (.name "source"))] },
      { rule := ⟨1, "UBER", "Uber", "Transport", "", "user"⟩, patternE := none, mods := ⟨[], []⟩, tags := [] },
      { rule := ⟨2, "EATS", "", "", "", "user"⟩, patternE := none, mods := ⟨[], []⟩, tags := [.static "food", .static "business", .blank] },
      { rule := ⟨3, "(any(r.item == \"Book\" for r in orders))", "Ordered", "Orders", "", "user"⟩, patternE := some anyBook,
        mods := ⟨[], []⟩, tags := [] },
      { rule := ⟨4, "LYFT and UBER", "Never", "X", "", "user"⟩, patternE := some (.boolop true [.name "LYFT", .name "UBER"]),
        mods := ⟨[], []⟩, tags := [] }],
    cutoff := fun _ => none }
def legacyRb : Rulebook :=
  { mode := .firstMatch, variables := [], transforms := [], rules := [], hasEngine := false, legacy := some legacyBook }
def plainRb : Rulebook := { legacyRb with legacy := some { legacyBook with rules := legacyBook.rules.take 3 } }
def rowOf (d : String) (a : UInt64) (dt : Date) : Row := ⟨d, a, some dt, "Src0", none, none⟩
def orderRows : List (String × Val) := [("orders", .list [.row [("item", .str "Book"), ("amount", .int 1599)]])]

/-- first match in file order, modifiers exact on the double (15.99 is not > 15.99; 16.0 is; February is not month 1),
tags of EVERY matching tuple de-duplicated in order, the description upper-cased before the search, Unknown fallback
under the extracted name, an expression-shaped cell that does not evaluate searched as a regular expression -/
example :
    classTag (classifyRow subOracles [] key0 [] legacyRb (rowOf "uber eats 123" b1599 ⟨2025, 1, 4⟩)) = some ("Uber", "Transport", "", ["food", "business"], "2025-01") ∧
    classTag (classifyRow subOracles [] key0 [] legacyRb (rowOf "uber eats 123" b1600 ⟨2025, 1, 4⟩)) = some ("Uber Big", "Transport", "Rideshare", ["business", "src0", "food"], "2025-01") ∧
    classTag (classifyRow subOracles [] key0 [] legacyRb (rowOf "uber eats 123" b1600 ⟨2025, 2, 4⟩)) = some ("Uber", "Transport", "", ["food", "business"], "2025-02") ∧
    classTag (classifyRow subOracles [] key0 [] legacyRb (rowOf "SHELL OIL 42" b1600 ⟨2025, 2, 4⟩)) = some ("Shell Oil", "Unknown", "Unknown", [], "2025-02") ∧
    classTag (classifyRow subOracles [] key0 [] legacyRb (rowOf "X LYFT and UBER" b1600 ⟨2025, 2, 4⟩)) = some ("Uber", "Transport", "", [], "2025-02") := by
  -- three tuples match the second row, and the kernel evaluates a tuple's answer again at every use the loop makes of
  -- it: the table of answers is evaluated first, and the loop run on its value
  have ht : legacyEvalRules subOracles [] legacyBook.cutoff [] (rowOf "uber eats 123" b1600 ⟨2025, 1, 4⟩) legacyBook.rules =
      .ok ((legacyBook.rules.map (·.rule)).zip
        [⟨.matched, ["business", "src0"]⟩, ⟨.matched, []⟩, ⟨.matched, ["food", "business"]⟩, ⟨.noMatch, []⟩, ⟨.noMatch, []⟩]) := by
    decide +kernel
  rw [classifyRow_of_table (r := rowOf "uber eats 123" b1600 ⟨2025, 1, 4⟩) (lb := legacyBook) rfl rfl rfl ht]
  decide +kernel

/-- **The per-tuple evaluation the loop consumes is each tuple's own.**  `classifyLegacy` hands `Rules.legacy` the
function `levOf table` (a lookup by the tuple's position `idx`); when positions are distinct — they are: the loader
numbers the tuples — that function returns, for every tuple of the file, exactly what `legacyEvalRule` computed for
THAT tuple on this transaction.  Hence every theorem of C01 / C02 about `Rules.legacy ev` (first match in file order,
non-matching and later tuples irrelevant, tags = de-duplicated union over all matching tuples, tag-only tuples
neutral) holds for the legacy pipeline with `ev r` = "tuple r's own test and tags". -/
theorem levOf_spec {o : Oracles} {fnames : List String} {cutoff : Nat → Option Migrate.Date} {supp : List (String × Val)}
    {row : Row} {rules : List LegacyRule} {table : List (LRule × LEval)}
    (h : legacyEvalRules o fnames cutoff supp row rules = .ok table) (hnd : (rules.map (·.rule.idx)).Nodup) :
    ∀ r ∈ rules, legacyEvalRule o fnames cutoff supp row r = .ok (levOf table r.rule) := by
  induction rules generalizing table with
  | nil => intro r hr; cases hr
  | cons x rest ih =>
    obtain ⟨e, hx, h⟩ := Except.bind_eq_ok.mp h
    obtain ⟨es, hrest, h⟩ := Except.bind_eq_ok.mp h
    cases h
    rw [List.map_cons, List.nodup_cons] at hnd
    intro r hr
    rcases List.mem_cons.mp hr with rfl | hr
    · rw [hx]; simp [levOf]
    · have hne : (x.rule.idx == r.rule.idx) = false :=
        beq_eq_false_iff_ne.mpr fun heq => hnd.1 (heq ▸ List.mem_map.mpr ⟨r, hr, rfl⟩)
      rw [ih hrest hnd.2 r hr]
      simp [levOf, hne]

/-- **First match in file order, end to end.**  Whenever the legacy pipeline classifies a transaction (does not
decline), there is ONE per-tuple evaluation `ev` — each tuple's own test and tags on this transaction
(`legacyEvalRule`: expression or regex arm, modifiers, dynamic tags) — such that merchant / category / subcategory are
those of the first tuple, in file order, that matched and carries a category, and otherwise the Unknown fallback under
the name extracted from the (transformed) description.  (C01's `legacy_first_match_spec` composed with `levOf_spec`.) -/
theorem legacy_pipeline_first_match (o : Oracles) (fnames : List String) (supp : List (String × Val)) (lb : LegacyBook)
    (row : Row) (res : LResult) (h : classifyLegacy o fnames supp lb row = .ok res)
    (hnd : (lb.rules.map (·.rule.idx)).Nodup) :
    ∃ ev : LegacyRule → LEval,
      (∀ r ∈ lb.rules, legacyEvalRule o fnames lb.cutoff supp row r = .ok (ev r)) ∧
      (res.merchant, res.category, res.subcategory) =
        match lb.rules.find? (fun r => (ev r).outcome == .matched && r.rule.category != "") with
        | some r => (r.rule.merchant, r.rule.category, r.rule.subcategory)
        | none => (extractMerchantName row.description, "Unknown", "Unknown") := by
  obtain ⟨table, ht, hres⟩ := classifyLegacy_ok h
  refine ⟨fun r => levOf table r.rule, levOf_spec ht hnd, ?_⟩
  have hspec := (TallyVerif.Props.C01.legacy_first_match_spec (levOf table) (extractMerchantName row.description) (lb.rules.map (·.rule))).2
  rw [← hres] at hspec
  rw [hspec, List.find?_map]
  have hfun : (TallyVerif.Props.C01.lwins (levOf table) ∘ fun r : LegacyRule => r.rule) =
      fun r => (levOf table r.rule).outcome == .matched && r.rule.category != "" := rfl
  rw [hfun]
  cases lb.rules.find? (fun r => (levOf table r.rule).outcome == .matched && r.rule.category != "") <;> rfl

/-- **Tags, end to end**: a tag is on the transaction exactly when some tuple of the file matched it and resolved that
tag — categorising or tag-only, before or after the deciding tuple.  (C02's `legacy_tags_iff` composed with `levOf_spec`.) -/
theorem legacy_pipeline_tags (o : Oracles) (fnames : List String) (supp : List (String × Val)) (lb : LegacyBook)
    (row : Row) (res : LResult) (h : classifyLegacy o fnames supp lb row = .ok res)
    (hnd : (lb.rules.map (·.rule.idx)).Nodup) :
    ∃ ev : LegacyRule → LEval,
      (∀ r ∈ lb.rules, legacyEvalRule o fnames lb.cutoff supp row r = .ok (ev r)) ∧
      ∀ t, t ∈ res.tags ↔ ∃ r ∈ lb.rules, (ev r).outcome = .matched ∧ t ∈ (ev r).tags := by
  obtain ⟨table, ht, hres⟩ := classifyLegacy_ok h
  refine ⟨fun r => levOf table r.rule, levOf_spec ht hnd, fun t => ?_⟩
  rw [hres, TallyVerif.Props.C02.legacy_tags_iff]
  constructor
  · rintro ⟨lr, hlr, hm, htag⟩
    obtain ⟨r, hr, rfl⟩ := List.mem_map.mp hlr
    exact ⟨r, hr, hm, htag⟩
  · rintro ⟨r, hr, hm, htag⟩
    exact ⟨r.rule, List.mem_map.mpr ⟨r, hr, rfl⟩, hm, htag⟩

example : (legacyBook.rules.map (·.rule.idx)).Nodup := by decide

/-- The guard of `legacy_plain_ignores_supplemental` is needed: ONE expression-shaped Pattern cell and the same
statement line is classified differently with and without the supplemental rows. -/
theorem legacy_expression_pattern_reads_supplemental :
    legacyRb.hasEngine = false ∧ ¬ PlainPatterns legacyBook ∧
    classTag (classifyRow subOracles [] key0 orderRows legacyRb (rowOf "AMZN MKTP" b1599 ⟨2025, 3, 9⟩)) = some ("Ordered", "Orders", "", [], "2025-03") ∧
    classTag (classifyRow subOracles [] key0 [] legacyRb (rowOf "AMZN MKTP" b1599 ⟨2025, 3, 9⟩)) = some ("Amzn Mktp", "Unknown", "Unknown", [], "2025-03") := by
  decide +kernel

/-- hypotheses of `legacy_plain_ignores_supplemental` / `legacy_supplemental_query_only` on a non-trivial budget: the
three regular-expression tuples, two ordinary sources and a supplemental one in between -/
example : plainRb.hasEngine = false ∧ (∀ lb, plainRb.legacy = some lb → PlainPatterns lb) ∧
    classTag (classifyRow subOracles [] key0 orderRows plainRb (rowOf "uber trip" b1599 ⟨2025, 1, 9⟩)) =
      some ("Uber", "Transport", "", [], "2025-01") := by
  refine ⟨rfl, ?_, by decide +kernel⟩
  intro lb h
  cases h
  decide +kernel

def bankSrc : Source := ⟨false, some [rowOf "uber eats 123" b1599 ⟨2025, 1, 4⟩, rowOf "SHELL OIL 42" b1600 ⟨2025, 2, 4⟩]⟩
def cardSrc : Source := ⟨false, some [rowOf "uber trip" b1599 ⟨2025, 1, 9⟩]⟩
def ordersSrc : Source := ⟨true, some [rowOf "Book" b1599 ⟨2025, 1, 5⟩]⟩
def missingSrc : Source := ⟨false, none⟩
/-- exact cents of the two doubles of the examples -/
def centsOf (b : UInt64) : Int := if b == b1600 then 1600 else 1599

/-- the whole modelled command on the legacy budget, exact cents: 3 transactions, 47.98 spent; the supplemental and
the missing source contribute no transaction, the loaded `orders` table decides the SHELL line (tuple 3) -/
theorem legacy_budget_run :
    ((upLoop (classifyRow subOracles [] key0 orderRows legacyRb) [bankSrc, ordersSrc, missingSrc, cardSrc]).toOption.map
        (fun cls => (cls.map (·.merchant), flowOf (reportG intNum asciiLower centsOf cls)))) =
      some (["Uber", "Ordered", "Uber"], ⟨0, 4798, 0, 0, 0, 0, 3, 4798⟩) := by
  decide +kernel

/-- hypotheses of `up_report_eq_runUp` / `up_source_local` on that budget: the run completes, so the legacy classifier
answers on every row of every ordinary source -/
example : ∃ cl, Classifies (classifyRow subOracles [] key0 orderRows legacyRb) cl [bankSrc, ordersSrc, missingSrc, cardSrc] := by
  cases h : upLoop (classifyRow subOracles [] key0 orderRows legacyRb) [bankSrc, ordersSrc, missingSrc, cardSrc] with
  | ok cls => exact classifies_of_run _ _ cls h
  | error e =>
    have := legacy_budget_run
    rw [h] at this
    exact absurd this (by simp [Except.toOption])

/-- `apply_transforms` evaluates a transform on the transaction ALONE: `field.description = len(orders)` raises (unknown
name), is skipped, and the description — hence the classification — is what it is without the transform, even though
the supplemental rows are loaded (confirmed on the code: `normalize_merchant('UBER EATS', [], amount=5.0,
transforms=[('field.description', 'len(orders)')], data_sources={'orders': [{}, {}]})` → `('Uber Eats', 'Unknown', 'Unknown', None)`). -/
theorem transform_sees_no_supplemental :
    classTag (classifyRow subOracles [] key0 orderRows
      { legacyRb with transforms := [("description", some (.callName "len" [.name "orders"]))] }
      (rowOf "uber eats 123" b1599 ⟨2025, 1, 4⟩)) = some ("Uber", "Transport", "", ["food", "business"], "2025-01") := by
  decide +kernel

end legacy

/-! ### Settings resolution: from the settings object to the report

The section above takes each source's parse parameters as given.  Here they are DERIVED: `Config.resolveConfig` is
`config_loader.load_config` on the object `yaml.safe_load` returned (any YAML value, Python's truthiness and dynamic typing
kept, what Python raises an error value), `Config.planSources` is the list of parser calls `commands/run.cmd_run` makes, in
order, with their arguments, `Config.readArgs` is what the reader makes of those arguments, and
`PipelineCfg.upFromSettings` composes them with C05's tokeniser and row parser and the loop `Pipeline.upLoop` above.  All
three are tied to the code on every run (streams `load`, `plan`, `read` of the check; the end-to-end stream runs the model
FROM the settings object).  Theorems quantify over every `Fmt.Ext` (CPython's non-ASCII `lower` / `\w` / `isspace`), every
`os.path.exists`, every outcome of the views loader, every file content and every `float()` / `strptime` / regex oracle. -/

section settings
open TallyVerif TallyVerif.Totals TallyVerif.Props.C06 TallyVerif.Config TallyVerif.PipelineCfg TallyVerif.Pipeline TallyVerif.Py TallyVerif.Gen

/-- **Defaults — `delimiter`.**  A source WITHOUT the key resolves exactly like the source with `delimiter: null` (comma):
`FormatSpec.delimiter` is None in both cases, whatever else the entry says (also when it is rejected: same error). -/
theorem default_delimiter (e : Fmt.Ext) (d : Dict) :
    resolveSource e (.map (erase kDelimiter d)) = resolveSource e (.map (insert kDelimiter .null d)) :=
  resolveSource_default e d (kDelimiter, .null) (by decide)

/-- **Defaults — `has_header`.**  Absent = `has_header: true`. -/
theorem default_has_header (e : Fmt.Ext) (d : Dict) :
    resolveSource e (.map (erase kHasHeader d)) = resolveSource e (.map (insert kHasHeader (.bool true) d)) :=
  resolveSource_default e d (kHasHeader, .bool true) (by decide)

/-- **Defaults — `decimal_separator`.**  Absent = `decimal_separator: "."` (the value `cmd_run` and the supplemental loader read
with `source.get('decimal_separator', '.')`). -/
theorem default_decimal_separator (e : Fmt.Ext) (d : Dict) :
    resolveSource e (.map (erase kDecimalSeparator d)) = resolveSource e (.map (insert kDecimalSeparator (.str ['.']) d)) :=
  resolveSource_default e d (kDecimalSeparator, .str ['.']) (by decide)

/-- **Defaults — `supplemental`.**  Absent = `supplemental: false`. -/
theorem default_supplemental (e : Fmt.Ext) (d : Dict) :
    resolveSource e (.map (erase kSupplemental d)) = resolveSource e (.map (insert kSupplemental (.bool false) d)) :=
  resolveSource_default e d (kSupplemental, .bool false) (by decide)

/-- **Defaults — `negate_amount`.**  Absent = the flag the source's OWN format string carries (`b` = does it say `{-amount}`):
the key, when present, REPLACES that flag.  So the documented default `false` is the default exactly for formats without the
minus sign; with `{-amount}`, `negate_amount: false` switches the negation off (`negate_amount_false_overrides_minus_sign`). -/
theorem default_negate_amount (e : Fmt.Ext) (d : Dict) (b : Bool) (h : formatFlag e d = some b) :
    resolveSource e (.map (erase kNegateAmount d)) = resolveSource e (.map (insert kNegateAmount (.bool b) d)) :=
  resolveSource_negate e d _ fun b' hb' => by rw [h] at hb'; cases hb'; rfl

/-- …and on an entry without a (valid) `format` — a `type: amex|boa` source, a rejected entry — `negate_amount` is not read at all -/
theorem negate_amount_without_format (e : Fmt.Ext) (d : Dict) (v : Y) (h : formatFlag e d = none) :
    resolveSource e (.map (erase kNegateAmount d)) = resolveSource e (.map (insert kNegateAmount v d)) :=
  resolveSource_negate e d v fun b hb => by rw [h] at hb; cases hb

/-- **Defaults — `rule_mode`.**  A settings object without the key loads exactly like the one with `rule_mode: first_match`
(same sources, same files, same warnings, same error if any). -/
theorem default_rule_mode (env : Env) (c : Dict) :
    resolveConfig env (.map (erase kRuleMode c)) = resolveConfig env (.map (insert kRuleMode (.str sFirstMatch) c)) :=
  resolveConfig_edit env c kRuleMode _ (by decide) (by decide) (by decide)
    (by simp (config := { decide := true }) [resolveRuleMode, get_erase, get_insert])
    (resolveRulesFile_congr env (get_erase_insert _ c (by decide))) (resolveViewsFile_congr env (get_erase_insert _ c (by decide)))

/-- what a configuration says apart from the rule mode and the warnings -/
def apartFromMode (cfg : Config) : List SourceCfg × RulesFile × Option Str × Y :=
  (cfg.sources, cfg.rulesFile, cfg.viewsFile, cfg.descriptionCleaning)

/-- **Rule mode — never an error.**  Whatever `rule_mode` is set to (any YAML value: a number, a list, null, a misspelling),
loading succeeds or fails exactly as it does without the key, with the same sources, rules file, views file — and the same
error.  The key can only move the mode and the warnings. -/
theorem rule_mode_never_an_error (env : Env) (c : Dict) (v : Y) :
    (resolveConfig env (.map (insert kRuleMode v c))).map apartFromMode =
      (resolveConfig env (.map (erase kRuleMode c))).map apartFromMode := by
  simp only [resolveConfig, ← get_erase_insert v c (show kDataSources ≠ kRuleMode by decide),
    ← resolveRulesFile_congr env (get_erase_insert v c (show kMerchantsFile ≠ kRuleMode by decide)),
    ← resolveViewsFile_congr env (get_erase_insert v c (show kViewsFile ≠ kRuleMode by decide)),
    ← get_erase_insert v c (show kDescriptionCleaning ≠ kRuleMode by decide)]
  cases resolveSources env.ext (get kDataSources (erase kRuleMode c)) with
  | error err => rfl
  | ok ss =>
    cases resolveRulesFile env (erase kRuleMode c) with
    | error err => rfl
    | ok p => cases resolveViewsFile env (erase kRuleMode c) <;> rfl

/-- **Rule mode — only the two legal spellings select a mode.**  `most_specific` is in force iff the value is exactly the
string `most_specific` (not `Most_Specific`, not `most-specific`, not `[most_specific]`); the "invalid rule_mode" warning is
there iff the key is present with a value that is neither of the two strings; in every other case the mode is `first_match`
(`RuleMode` has two values). -/
theorem rule_mode_spec (env : Env) (c : Dict) (cfg : Config) (h : resolveConfig env (.map c) = .ok cfg) :
    (cfg.ruleMode = .mostSpecific ↔ get kRuleMode c = some (.str sMostSpecific)) ∧
    (Warning.invalidRuleMode ∈ cfg.warnings ↔
      ∃ v, get kRuleMode c = some v ∧ v ≠ .str sFirstMatch ∧ v ≠ .str sMostSpecific) := by
  obtain ⟨ss, rf, wr, vf, wv, _, hrf, hvf, rfl⟩ := resolveConfig_ok h
  have hwr := resolveRulesFile_warnings hrf
  have hwv := resolveViewsFile_warnings hvf
  have hmem : Warning.invalidRuleMode ∈ parserWarnings ss ++ removedWarnings c ++ (resolveRuleMode c).2 ++ wr ++ wv ↔
      Warning.invalidRuleMode ∈ (resolveRuleMode c).2 := by
    rcases hwr with rfl | rfl <;> rcases hwv with rfl | rfl | rfl <;>
      simp [invalidRuleMode_not_mem_parserWarnings, invalidRuleMode_not_mem_removedWarnings]
  simp only [hmem]
  -- arm by arm of `resolveRuleMode`: each knows the value of the key; the two spellings differ
  have hne : sFirstMatch ≠ sMostSpecific := by decide
  fun_cases resolveRuleMode c
  case case5 hv _ =>  -- a value that is no string
    simp [*]
    exact ⟨hv _, hv _, hv _⟩
  all_goals simp [*]

/-- the path `merchants_file: s` names: relative to the budget directory -/
def configuredRulesPath (env : Env) (s : Str) : Str := pjoin2 (dirname env.cfgDir) s
/-- the legacy file, `config/merchant_categories.csv` -/
def legacyRulesPath (env : Env) : Str := pjoin2 env.cfgDir ConfigTables.LEGACY_CSV_NAME

/-- **Which rules file — the three-way choice, exactly.**  `merchants_file` names an existing file (relative to the budget
directory) ⇔ that file, format `new`; `merchants_file` is absent OR FALSY (`""`, null, false, 0, [] — `if merchants_file:`) and
`config/merchant_categories.csv` exists ⇔ the legacy CSV, format `csv`; otherwise — configured & missing, or nothing configured
and no legacy file — no rules at all. -/
theorem rules_file_selection (env : Env) (c : Dict) (cfg : Config) (h : resolveConfig env (.map c) = .ok cfg) :
    (∀ p, cfg.rulesFile = .new p ↔
      ∃ s, get kMerchantsFile c = some (.str s) ∧ s ≠ [] ∧ p = configuredRulesPath env s ∧ env.pathExists p = true) ∧
    (∀ p, cfg.rulesFile = .csv p ↔
      ((get kMerchantsFile c).getD .null).truthy = false ∧ p = legacyRulesPath env ∧ env.pathExists p = true) ∧
    (cfg.rulesFile = .none ↔
      (∃ s, get kMerchantsFile c = some (.str s) ∧ s ≠ [] ∧ env.pathExists (configuredRulesPath env s) = false) ∨
      (((get kMerchantsFile c).getD .null).truthy = false ∧ env.pathExists (legacyRulesPath env) = false)) := by
  obtain ⟨ss, rf, wr, vf, wv, _, hrf, _, rfl⟩ := resolveConfig_ok h
  rw [resolveRulesFile_eq] at hrf
  -- both sides speak of the one value the block looks at: on each of its three forms, and whether the file named is there,
  -- every clause is decided
  simp only [← and_assoc, ← pathSetting_eq_path, ← pathSetting_eq_unset, configuredRulesPath, legacyRulesPath]
  generalize pathSetting (get kMerchantsFile c) = ps at hrf ⊢
  rcases ps with _ | s | _ <;> simp only at hrf
  case notStr => cases hrf
  all_goals
    split at hrf <;> cases hrf
    · -- the file is there and selected: the path asked about is that file's
      simp [*]
      exact fun p => ⟨by rintro rfl; exact ⟨rfl, ‹_›⟩, fun e => e.1.symm⟩
    · simp [*]  -- it is not there: no rules file

/-- **A configured-but-missing `merchants_file` never silently falls back to the legacy CSV**: no rules are loaded (everything
is `Unknown`) and the "Merchants file not found" warning is recorded — whether or not `config/merchant_categories.csv` exists. -/
theorem configured_missing_never_legacy (env : Env) (c : Dict) (cfg : Config) (s : Str)
    (h : resolveConfig env (.map c) = .ok cfg) (hmf : get kMerchantsFile c = some (.str s)) (hs : s ≠ [])
    (hmiss : env.pathExists (configuredRulesPath env s) = false) :
    cfg.rulesFile = .none ∧ Warning.merchantsNotFound ∈ cfg.warnings := by
  obtain ⟨ss, rf, wr, vf, wv, _, hrf, _, rfl⟩ := resolveConfig_ok h
  rw [resolveRulesFile_eq, pathSetting_eq_path.mpr ⟨hmf, hs⟩] at hrf
  simp only [show env.pathExists (pjoin2 (dirname env.cfgDir) s) = false from hmiss, Bool.false_eq_true, if_false] at hrf
  cases hrf
  simp

/-- …whereas a FALSY `merchants_file` (`merchants_file: ""`, `merchants_file:` with nothing after it) IS the same as no key at
all — including the fall-back to the legacy CSV. -/
theorem falsy_merchants_file_is_absent (env : Env) (c : Dict) (v : Y) (hv : v.truthy = false) :
    resolveConfig env (.map (insert kMerchantsFile v c)) = resolveConfig env (.map (erase kMerchantsFile c)) := by
  refine (resolveConfig_edit env c kMerchantsFile v (by decide) (by decide) (by decide)
    (resolveRuleMode_congr (get_erase_insert v c (by decide))) ?_
    (resolveViewsFile_congr env (get_erase_insert v c (by decide)))).symm
  have hn : Y.null.truthy = false := rfl
  simp [resolveRulesFile, get_insert, get_erase, hv, hn]

/-- `parse_format_string` accepts the format with this `columns.description` value -/
def FormatOk (e : Fmt.Ext) (f : Str) (tmpl : Y) : Bool :=
  match tmpl with
  | .str t => (Fmt.Impl.parseFormat e f (some t)).isOk
  | _ => !tmpl.truthy && (Fmt.Impl.parseFormat e f none).isOk

/-- **the source entries `load_config` accepts**: a mapping without a removed key that has EITHER a `format` that is a string
`parse_format_string` accepts together with `columns.description` (a string, or any falsy value) OR, failing a `format` key, a
`type` that is a string naming a special parser in any letter case.  Nothing else is looked at: `name`, `file`, `delimiter`,
`has_header`, `negate_amount`, `decimal_separator`, `supplemental` may be absent or of any type. -/
def SourceOk (e : Fmt.Ext) : Y → Bool
  | .map d =>
    !(ConfigTables.REMOVED_SOURCE_KEYS.any fun k => has k d) &&
    (match get kFormat d with
     | some (.str f) => FormatOk e f (templateOf d)
     | some _ => false
     | none =>
       match get kType d with
       | some (.str t) => ConfigTables.SPECIAL_PARSERS.contains (e.lower (e.lower t))
       | _ => false)
  | _ => false

private theorem parseFormatY_isOk (e : Fmt.Ext) (f : Str) (tmpl : Y) : (parseFormatY e (.str f) tmpl).isOk = FormatOk e f tmpl := by
  unfold parseFormatY FormatOk
  simp only
  split
  next t => simp only; cases Fmt.Impl.parseFormat e f (some t) <;> rfl
  next =>  -- the template is no string: truthy (every arm an error) or falsy (no template)
    cases tmpl.truthy with
    | true =>
      simp only [if_true, Bool.not_true, Bool.false_and]
      cases Fmt.Impl.parseFormat e f (some ['x']) with
      | error err => simp only; split <;> rfl
      | ok _ => rfl
    | false =>
      simp only [Bool.false_eq_true, if_false, Bool.not_false, Bool.true_and]
      cases Fmt.Impl.parseFormat e f none <;> rfl

/-- **Error locality — which source entries `resolve_source_format` rejects**: exactly those outside `SourceOk`. -/
theorem source_ok_iff (e : Fmt.Ext) (y : Y) : (resolveSource e y).isOk = SourceOk e y := by
  fun_cases resolveSource e y
  case case5 h => cases y <;> first | rfl | exact (h _ rfl).elim  -- no mapping
  all_goals simp only [SourceOk, ← List.isSome_find?, Except.isOk_map, *]
  case case1 | case4 => rfl  -- a removed key; neither `format` nor `type`
  case case2 fmt _ =>  -- `format` is there
    cases fmt with
    | str f => simp only [resolveGeneric, Except.isOk_map, parseFormatY_isOk]; rfl
    | _ => rfl
  case case3 t _ =>  -- `type` is there, `format` is not
    cases t with
    | str t => simp only [resolveSpecial]; split <;> simp_all [Except.isOk, Except.toBool]
    | _ => rfl

/-- `data_sources` is absent, falsy (null, [], {}, '', 0, false), or a list of acceptable entries -/
def SourcesOk (e : Fmt.Ext) : Option Y → Bool
  | none => true
  | some v => !v.truthy || (match v with
      | .list xs => xs.all (SourceOk e)
      | _ => false)

/-- `merchants_file` / `views_file` is absent, falsy, or a string -/
def PathOk : Option Y → Bool
  | none => true
  | some v => !v.truthy || (match v with
      | .str _ => true
      | _ => false)

/-- a views file that is there can be read (it may fail to PARSE: that is a warning) -/
def ViewsReadable (env : Env) (c : Dict) : Bool :=
  match get kViewsFile c with
  | some (.str s) =>
    s.isEmpty || !env.pathExists (configuredRulesPath env s) ||
      (match env.viewsLoad (configuredRulesPath env s) with
       | .raises _ => false
       | _ => true)
  | _ => true

/-- **the settings objects `load_config` accepts** -/
def LoadOk (env : Env) : Y → Bool
  | .map c => SourcesOk env.ext (get kDataSources c) && PathOk (get kMerchantsFile c) && PathOk (get kViewsFile c) && ViewsReadable env c
  | _ => false

private theorem resolveSources_isOk (e : Fmt.Ext) (ds : Option Y) : (resolveSources e ds).isOk = SourcesOk e ds := by
  unfold resolveSources SourcesOk
  cases ds with
  | none => rfl
  | some v =>
    simp only
    cases v.truthy with
    | true =>
      simp only [Bool.not_true, Bool.false_eq_true, if_false, Bool.false_or]
      cases v with
      | list xs => simp only [resolveAll_eq_mapM, List.isOk_mapM, source_ok_iff]
      | _ => rfl
    | false => rfl

private theorem PathOk_eq (o : Option Y) :
    PathOk o = match pathSetting o with | .unset => true | .path _ => true | .notStr => false := by
  refine Eq.trans ?_ (ite_match_pathSetting o true (fun _ => true) false)
  rcases o with _ | v
  · rfl
  · cases h : v.truthy <;> simp [PathOk, h]
    cases v <;> rfl

private theorem resolveRulesFile_isOk (env : Env) (c : Dict) : (resolveRulesFile env c).isOk = PathOk (get kMerchantsFile c) := by
  rw [resolveRulesFile_eq, PathOk_eq]
  cases pathSetting (get kMerchantsFile c) with
  | notStr => rfl
  | _ => simp only; split <;> rfl

private theorem resolveViewsFile_isOk (env : Env) (c : Dict) :
    (resolveViewsFile env c).isOk = (PathOk (get kViewsFile c) && ViewsReadable env c) := by
  rw [resolveViewsFile_eq, PathOk_eq]
  unfold ViewsReadable configuredRulesPath
  cases hp : pathSetting (get kViewsFile c) with
  | notStr => rfl
  | path s =>
    obtain ⟨hg, hs⟩ := pathSetting_eq_path.mp hp
    simp only [hg, List.isEmpty_eq_false_iff.mpr hs, Bool.false_or, Bool.true_and]
    split
    next hex => rw [hex]; cases env.viewsLoad (pjoin2 (dirname env.cfgDir) s) <;> rfl
    next hex => simp [hex]; rfl
  | unset =>
    -- `ViewsReadable` looks at the key itself: a string that is there is the empty one
    simp only [Bool.true_and]
    split
    next s hg =>
      cases s with
      | nil => rfl
      | cons a r => rw [pathSetting_eq_path.mpr ⟨hg, List.cons_ne_nil a r⟩] at hp; cases hp
    next => rfl

/-- **Error locality — which settings objects `load_config` rejects**: exactly those outside `LoadOk` (the settings must be a
mapping; `data_sources` falsy or a list of acceptable entries; `merchants_file` / `views_file` falsy or strings; a views file
that is there must be readable).  Everything else — `rule_mode`, `year`, unknown keys, removed settings, a views file that does
not parse, missing files — is tolerated (at most a warning). -/
theorem load_ok_iff (env : Env) (y : Y) : (resolveConfig env y).isOk = LoadOk env y := by
  cases y with
  | map c =>
    rw [resolveConfig_isOk, resolveSources_isOk, resolveRulesFile_isOk, resolveViewsFile_isOk]
    simp only [LoadOk, Bool.and_assoc]
  | _ => rfl

/-- **One malformed source entry aborts the whole load**: no partial configuration, no other source is read. -/
theorem bad_source_aborts_load (env : Env) (c : Dict) (xs : List Y) (x : Y) (hds : get kDataSources c = some (.list xs)) (hx : x ∈ xs)
    (hbad : SourceOk env.ext x = false) : ∃ err, resolveConfig env (.map c) = .error err := by
  cases h : resolveConfig env (.map c) with
  | error err => exact ⟨err, rfl⟩
  | ok cfg =>
    -- a load that succeeds has resolved every entry of the list
    obtain ⟨s, _, hs⟩ := List.mapM_ok_mem (resolveConfig_sources hds h) hx
    rw [← source_ok_iff, hs] at hbad
    cases hbad

/-- the keys that decide whether an entry is accepted -/
def acceptanceKeys : List Str := ConfigTables.REMOVED_SOURCE_KEYS ++ [kFormat, kType, kColumns]

/-- …and acceptance looks at `format`, `type`, `columns` and the two removed keys ONLY: any other key of an entry — `name`,
`file`, `delimiter`, `has_header`, `negate_amount`, `decimal_separator`, `supplemental`, an unknown key — may be absent or carry
a value of any type without the load failing. -/
theorem source_ok_ignores_other_keys (e : Fmt.Ext) (d : Dict) (k : Str) (v : Y) (hk : k ∉ acceptanceKeys) :
    SourceOk e (.map (insert k v d)) = SourceOk e (.map (erase k d)) := by
  have hg : ∀ k' ∈ acceptanceKeys, get k' (insert k v d) = get k' (erase k d) :=
    fun k' hk' => (get_erase_insert v d fun e : k' = k => hk (e ▸ hk')).symm
  have hr := find?_has_congr ConfigTables.REMOVED_SOURCE_KEYS fun k' hk' => hg k' (List.mem_append_left _ hk')
  simp only [SourceOk, templateOf, ← List.isSome_find?, hr, hg kFormat (by decide), hg kType (by decide), hg kColumns (by decide)]

/-- **Editing one source entry moves only that source's planned call.**  Two settings objects whose `data_sources` lists
differ in ONE entry (position `pre.length`; everything else — also any other top-level key — may differ too): when both
runs get as far as the loop, the calls planned before that position are literally the same list, so are the calls after it,
and what stands between is the at most one call of the edited source. -/
theorem plan_source_local (q : Bool) (env : Env) (c c' : Dict) (pre post : List Y) (x x' : Y) (cfg cfg' : Config)
    (P P' : List Planned)
    (hc : get kDataSources c = some (.list (pre ++ x :: post))) (hc' : get kDataSources c' = some (.list (pre ++ x' :: post)))
    (h : resolveConfig env (.map c) = .ok cfg) (h' : resolveConfig env (.map c') = .ok cfg')
    (hP : planSources q env cfg = .ok P) (hP' : planSources q env cfg' = .ok P') :
    ∃ before here here' after,
      P = before ++ here ++ after ∧ P' = before ++ here' ++ after ∧ here.length ≤ 1 ∧ here'.length ≤ 1 ∧
      (∀ p ∈ here ++ here', p.index = pre.length) ∧ (∀ p ∈ before ++ after, p.index ≠ pre.length) := by
  obtain ⟨A, s, s', B, hS, hS', hlen, -, -⟩ := resolveConfig_sources_edit hc hc' h h'
  have hp := planSources_ok hP
  have hp' := planSources_ok hP'
  rw [hS, planFrom_eq_mapM, List.zipIdx_append, List.zipIdx_cons] at hp
  rw [hS', planFrom_eq_mapM, List.zipIdx_append, List.zipIdx_cons] at hp'
  obtain ⟨H, hH, rfl⟩ := Except.map_eq_ok hp
  obtain ⟨H', hH', rfl⟩ := Except.map_eq_ok hp'
  obtain ⟨HA, o, o', HB, rfl, rfl, hA, ho, ho', hB⟩ := List.mapM_edit hH hH'
  have iA := planOne_mapM_index hA
  have iB := planOne_mapM_index hB
  refine ⟨HA.flatMap Option.toList, o.toList, o'.toList, HB.flatMap Option.toList, by simp, by simp,
    Option.length_toList_le, Option.length_toList_le, ?_, ?_⟩
  · intro p hp
    rcases List.mem_append.mp hp with hp | hp
    · rw [planOne_index (Option.mem_toList.mp hp ▸ ho)]; omega
    · rw [planOne_index (Option.mem_toList.mp hp ▸ ho')]; omega
  · intro p hp
    rcases List.mem_append.mp hp with hp | hp
    · have := iA p hp; omega
    · have := iB p hp; omega

/-- **A top-level setting other than `data_sources` governs no planned call**: two settings objects with the same
`data_sources` value whose runs both reach the loop plan exactly the same calls — whatever `rule_mode`, `merchants_file`,
`views_file`, `year`, … say. -/
theorem plan_toplevel_local (q : Bool) (env : Env) (c c' : Dict) (cfg cfg' : Config) (P P' : List Planned)
    (hds : get kDataSources c = get kDataSources c')
    (h : resolveConfig env (.map c) = .ok cfg) (h' : resolveConfig env (.map c') = .ok cfg')
    (hP : planSources q env cfg = .ok P) (hP' : planSources q env cfg' = .ok P') : P = P' := by
  obtain ⟨ss, _, _, _, _, hss, _, _, rfl⟩ := resolveConfig_ok h
  obtain ⟨ss', _, _, _, _, hss', _, _, rfl⟩ := resolveConfig_ok h'
  cases hss.symm.trans (hds ▸ hss')
  have hp := planSources_ok hP
  have hp' := planSources_ok hP'
  exact Except.ok.inj (hp.symm.trans hp')

/-- **`tally up` = classify ∘ concat ∘ parse ∘ plan ∘ resolve — from the settings object.**  When the settings load
(`resolveConfig`), the run reaches the loop (`planSources`) and the model covers the planned calls (`toSources`), the
transaction list of the command is the row-by-row classification — by the classifier the resolved config selects
(`classEnv`: rule mode, rules file, supplemental sources) — of the concatenation, in `data_sources` order, of what each
planned call's parser returns for ITS file with ITS resolved settings. -/
theorem settings_report_eq_composition (q : Bool) (env : Env) (w : World) (classify : ClassEnv → Row → Except Err Classified)
    (settings : Y) (cfg : Config) (plan : List Planned) (srcs : List Source)
    (h1 : resolveConfig env settings = .ok cfg) (h2 : planSources q env cfg = .ok plan) (h3 : toSources w plan = .ok srcs) :
    upFromSettings q env w classify settings =
      (classifyAll (classify (classEnv cfg)) (srcs.flatMap Source.rows)).mapError Stop.model := by
  unfold upFromSettings
  simp only [h1, h2, h3]
  rw [upLoop_eq_composition, toSources_filter_ordinary h3]
  cases classifyAll (classify (classEnv cfg)) (srcs.flatMap Source.rows) <;> rfl

/-- …and its report is C06's totals of those transactions: `runUp` (the composition `source_local`, `setting_local`,
`silent_source_neutral`, `source_order_irrelevant`, `report_count` are about) over the planned sources, amounts read
exactly.  Holds for every classifier that answers on the budget's rows. -/
theorem settings_report_eq_runUp (q : Bool) (env : Env) (w : World) (classify : ClassEnv → Row → Except Err Classified)
    (lower : String → String) (cents : UInt64 → Int) (cl : Row → Classified)
    (settings : Y) (cfg : Config) (plan : List Planned) (srcs : List Source)
    (h1 : resolveConfig env settings = .ok cfg) (h2 : planSources q env cfg = .ok plan) (h3 : toSources w plan = .ok srcs)
    (hcl : Classifies (classify (classEnv cfg)) cl srcs) :
    (upFromSettings q env w classify settings).toOption.map (reportG intNum lower cents) =
      some (runUp lower (fun s : Source => s.supplemental) (txnsOf cents cl) srcs) := by
  unfold upFromSettings
  simp only [h1, h2, h3]
  obtain ⟨cls, hu, hr⟩ := Except.map_eq_ok (up_report_eq_runUp lower cents (classify (classEnv cfg)) cl srcs hcl)
  rw [hu]
  exact congrArg some hr.symm

/-- **The classifier of a run does not depend on an ordinary source.**  Replace one entry of `data_sources` by another; if
neither is a supplemental source and `rule_mode` / `merchants_file` are untouched, the rule mode, the rules file and the
supplemental sources available to rule expressions — everything the classifier is built from — are the same. -/
theorem class_env_source_local (env : Env) (c c' : Dict) (pre post : List Y) (x x' : Y) (cfg cfg' : Config)
    (hc : get kDataSources c = some (.list (pre ++ x :: post))) (hc' : get kDataSources c' = some (.list (pre ++ x' :: post)))
    (hmode : get kRuleMode c = get kRuleMode c') (hmf : get kMerchantsFile c = get kMerchantsFile c')
    (h : resolveConfig env (.map c) = .ok cfg) (h' : resolveConfig env (.map c') = .ok cfg')
    (hx : ∀ s, resolveSource env.ext x = .ok s → s.supplemental.truthy = false)
    (hx' : ∀ s, resolveSource env.ext x' = .ok s → s.supplemental.truthy = false) :
    classEnv cfg = classEnv cfg' := by
  obtain ⟨A, s, s', B, hS, hS', -, hs, hs'⟩ := resolveConfig_sources_edit hc hc' h h'
  obtain ⟨ss, rf, wr, vf, wv, _, hrf, _, hcfg⟩ := resolveConfig_ok h
  obtain ⟨ss', rf', wr', vf', wv', _, hrf', _, hcfg'⟩ := resolveConfig_ok h'
  have hrfe : rf = rf' := by
    rw [resolveRulesFile_congr env hmf, hrf'] at hrf
    cases hrf; rfl
  have hme : (resolveRuleMode c).1 = (resolveRuleMode c').1 := by rw [resolveRuleMode_congr hmode]
  unfold classEnv
  rw [hS, hS']
  simp only [List.filter_append, List.filter_cons, hx s hs, hx' s' hs', Bool.false_eq_true, if_false]
  rw [hcfg, hcfg']
  simp only [hrfe, hme]

/-- **Changing one source or one of its settings changes only that source's share — from the settings object.**
Two settings objects whose `data_sources` differ in ONE entry that is an ordinary (non-supplemental) source on both sides, with
the same `rule_mode` and `merchants_file`: when both runs complete, their transaction lists are
`before ++ own ++ after` and `before ++ own' ++ after` with LITERALLY the same `before` and `after` (the classified
transactions of all other sources, in order) — and every money-flow figure and count of either report is the figure of
`before ++ after` plus the figure of the source's own transactions (C06's exact totals). -/
theorem settings_source_local (q : Bool) (env : Env) (w : World) (classify : ClassEnv → Row → Except Err Classified)
    (lower : String → String) (cents : UInt64 → Int)
    (c c' : Dict) (pre post : List Y) (x x' : Y) (T T' : List Classified)
    (hc : get kDataSources c = some (.list (pre ++ x :: post))) (hc' : get kDataSources c' = some (.list (pre ++ x' :: post)))
    (hmode : get kRuleMode c = get kRuleMode c') (hmf : get kMerchantsFile c = get kMerchantsFile c')
    (hx : ∀ s, resolveSource env.ext x = .ok s → s.supplemental.truthy = false)
    (hx' : ∀ s, resolveSource env.ext x' = .ok s → s.supplemental.truthy = false)
    (hT : upFromSettings q env w classify (.map c) = .ok T) (hT' : upFromSettings q env w classify (.map c') = .ok T') :
    ∃ before own own' after,
      T = before ++ own ++ after ∧ T' = before ++ own' ++ after ∧
      (∀ U, U = own ∨ U = own' →
        flowOf (reportG intNum lower cents (before ++ U ++ after)) =
          ⟨(reportG intNum lower cents (before ++ after)).income + (reportG intNum lower cents U).income,
           (reportG intNum lower cents (before ++ after)).spending + (reportG intNum lower cents U).spending,
           (reportG intNum lower cents (before ++ after)).credits + (reportG intNum lower cents U).credits,
           (reportG intNum lower cents (before ++ after)).transfersIn + (reportG intNum lower cents U).transfersIn,
           (reportG intNum lower cents (before ++ after)).transfersOut + (reportG intNum lower cents U).transfersOut,
           (reportG intNum lower cents (before ++ after)).investment + (reportG intNum lower cents U).investment,
           (reportG intNum lower cents (before ++ after)).count + (reportG intNum lower cents U).count,
           (reportG intNum lower cents (before ++ after)).total + (reportG intNum lower cents U).total⟩) := by
  obtain ⟨cfg, P, S, h, hP, hS, hU⟩ := upFromSettings_ok.mp hT
  obtain ⟨cfg', P', S', h', hP', hS', hU'⟩ := upFromSettings_ok.mp hT'
  have hce := class_env_source_local env c c' pre post x x' cfg cfg' hc hc' hmode hmf h h' hx hx'
  rw [← hce] at hU'
  obtain ⟨PB, here, here', PA, rfl, rfl, -⟩ := plan_source_local q env c c' pre post x x' cfg cfg' P P' hc hc' h h' hP hP'
  -- the sources of the two plans, and their classified rows, differ in the middle segment only
  rw [upLoop_eq_composition, toSources_filter_ordinary hS, classifyAll_eq_mapM] at hU
  rw [upLoop_eq_composition, toSources_filter_ordinary hS', classifyAll_eq_mapM] at hU'
  rw [toSources_eq_mapM] at hS hS'
  obtain ⟨SB, SH, SH', SA, rfl, rfl, -⟩ := List.mapM_edit_seg hS hS'
  simp only [List.flatMap_append] at hU hU'
  obtain ⟨TB, TH, TH', TA, rfl, rfl, -⟩ := List.mapM_edit_seg hU hU'
  refine ⟨TB, TH, TH', TA, rfl, rfl, ?_⟩
  intro U _
  -- C06: the figures of `before ++ U ++ after` are those of `before ++ after` plus those of `U`
  have := source_local lower (fun _ : List T => false) (fun l => l) [TB.map (toTotalsG cents)] [TA.map (toTotalsG cents)]
    (U.map (toTotalsG cents)) rfl
  simpa [runUp, reportG, List.map_append] using this

/-! #### what the code does with values of another type, on concrete settings (kernel-checked; each is replayed on the
real code by the `load` / `plan` / `read` streams of the check) -/

/-- ASCII-only text: the `Ext` parameters are never consulted -/
def ext0 : Fmt.Ext := ⟨fun _ => false, fun _ => false, id⟩

def ys (s : String) : Y := .str s.toList
def ym (kvs : List (String × Y)) : Y := .map (kvs.map fun kv => (kv.1.toList, kv.2))

/-- a budget at `/b`: two statement files, a rules file and the legacy CSV are there -/
def demoEnv : Env :=
  { ext := ext0, cfgDir := "/b/config".toList,
    pathExists := fun p => p ∈ ["/b/data/a.csv".toList, "/b/data/x.csv".toList, "/b/data/o.csv".toList, "/b/config/merchants.rules".toList,
                               "/b/config/merchant_categories.csv".toList],
    viewsLoad := fun _ => .loaded }

def srcBank : Y := ym [("name", ys "Bank"), ("file", ys "data/a.csv"), ("format", ys "{date:%Y-%m-%d},{description},{-amount}"),
  ("has_header", ys "false"), ("negate_amount", .bool false), ("delimiter", .int 0), ("decimal_separator", ys ",")]
def srcOrders : Y := ym [("name", ys "orders"), ("file", ys "data/o.csv"), ("format", ys "{date},{item},{amount}"),
  ("columns", ym [("description", ys "{item}")]), ("supplemental", ys "no")]
def srcCard : Y := ym [("name", ys "Card"), ("file", ys "data/missing.csv"), ("format", ys "{date},{description},{amount}")]
def srcAmex : Y := ym [("file", ys "./data//x.csv"), ("type", ys "AMEX"), ("format_", ys "ignored"), ("delimiter", .list [ys ";"])]

def demoSettings : Y := ym [("year", .int 2025), ("data_sources", .list [srcBank, srcOrders, srcCard, srcAmex]), ("rule_mode", ys "Most_Specific"),
  ("merchants_file", ys "config/missing.rules"), ("home_state", ys "WA")]

/-- the demo settings load: four sources; `rule_mode: Most_Specific` is NOT one of the two spellings (first_match + a warning); the
configured rules file is missing and the legacy CSV next to it is NOT used; warnings in the order the code appends them -/
example : (resolveConfig demoEnv demoSettings).toOption.map
      (fun k => (k.sources.length, k.ruleMode, k.rulesFile, k.warnings.map Warning.type)) =
    some (4, .firstMatch, .none, ["deprecated".toList, "deprecated".toList, "warning".toList, "warning".toList]) := by
  -- the kernel decodes `"…".toList` at a cost quadratic in the length: take the characters of the literals first
  unfold demoEnv demoSettings srcBank srcOrders srcCard srcAmex ys
  repeat rw [String.toList_ofList]
  decide +kernel

/-- what `tally up -q` parses for them: `bank` from `/b/data/a.csv`; `orders` is supplemental (`supplemental: "no"` is a
non-empty string: TRUE); `card`'s file is missing; the `type: AMEX` source (no name: fine with --quiet) from the normalised path -/
example : ((resolveConfig demoEnv demoSettings).toOption.map fun k => (planSources true demoEnv k).toOption.map
      (fun P => P.map fun p => (p.index, String.ofList p.path, match p.call with | .amex => "amex" | .boa => "boa" | .generic .. => "generic"))) =
    some (some [(0, "/b/data/a.csv", "generic"), (3, "/b/data/x.csv", "amex")]) := by
  unfold demoEnv demoSettings srcBank srcOrders srcCard srcAmex ys
  repeat rw [String.toList_ofList]
  decide +kernel

/-- **F11-name, repaired in /repo (aa7bfcd).**  A data source without a `name:` key used to kill a run without `--quiet`
(`KeyError: 'name'` on its progress line - also when its file was merely missing, so the other sources' figures were lost); the
progress lines now print the name the transactions get.  On the demo budget (one nameless `type: AMEX` source, one source whose file
is missing) the run plans the same two parser calls with and without `--quiet`; `plan_quiet_irrelevant` states it for every budget. -/
theorem plan_quiet_irrelevant (q q' : Bool) (env : Env) (k : Config) : planSources q env k = planSources q' env k := by
  have hone : ∀ (i : Nat) (s : SourceCfg), planOne q env i s = planOne q' env i s := fun i s => by unfold planOne; rfl
  unfold planSources
  simp only [planFrom_eq_mapM, hone]

/-- the demo budget of the F11-name witness: two parser calls planned, with and without `--quiet` -/
theorem nameless_source_no_longer_stops_the_run :
    ((resolveConfig demoEnv demoSettings).toOption.map fun k => ((planSources true demoEnv k).toOption.map List.length,
        (planSources false demoEnv k).toOption.map List.length)) = some (some 2, some 2) := by
  unfold demoEnv demoSettings srcBank srcOrders srcCard srcAmex ys
  repeat rw [String.toList_ofList]
  decide +kernel

/-- how the reader takes `bank`'s settings: `has_header: "false"` is a non-empty string — the first line IS skipped;
`negate_amount: false` switches `{-amount}` OFF; `delimiter: 0` is falsy — comma; `decimal_separator: ","` — European amounts -/
theorem dynamic_typing_of_reader_settings :
    ((resolveSource ext0 srcBank).toOption.bind fun s => match s.parser with
      | .generic g => (readArgs g (s.name.getD .null) s.decimalSeparator).toOption.map
          fun r => (r.delim, r.hasHeader, r.eu, r.spec.negateAmount, g.base.negateAmount)
      | _ => none) = some (.csv ',', true, true, false, true) := by
  unfold srcBank ys
  repeat rw [String.toList_ofList]
  decide +kernel

/-- `negate_amount` absent ≠ `negate_amount: false` when the format says `{-amount}`: the documented default `false` is the
default only for a format without the minus sign (`default_negate_amount` is the exact statement) -/
theorem negate_amount_false_overrides_minus_sign :
    formatFlag ext0 [("format".toList, ys "{date},{description},{-amount}")] = some true ∧
    resolveSource ext0 (ym [("format", ys "{date},{description},{-amount}")]) ≠
      resolveSource ext0 (ym [("format", ys "{date},{description},{-amount}"), ("negate_amount", .bool false)]) := by
  decide +kernel

/-- a delimiter that is a truthy non-string (`delimiter: 5`, `delimiter: [";"]`) is stored as it is by the loader and breaks the
READER (`AttributeError`, caught per source: that source yields nothing); a falsy one (`0`, `false`, `''`, `null`) is a comma -/
theorem delimiter_of_another_type :
    delimArg (.int 5) = .error .attributeError ∧ delimArg (.list [ys ";"]) = .error .attributeError ∧
    delimArg (.bool true) = .error .attributeError ∧
    delimArg (.int 0) = .ok (.csv ',') ∧ delimArg (.bool false) = .ok (.csv ',') ∧ delimArg (ys "") = .ok (.csv ',') ∧
    delimArg .null = .ok (.csv ',') ∧ delimArg (ys "tab") = .ok (.csv '\t') ∧ delimArg (ys ";;") = .ok (.csv ',') ∧
    delimArg (ys "regex:^(.*)$") = .ok .regex := by decide +kernel

/-- which entries abort the load and which are tolerated (`SourceOk`): a `format` that is null / a number, a `type` that is not
a string, a removed key, neither `format` nor `type`, a Mode-2 format whose `columns.description` is a number — rejected;
wrongly typed reader settings, unknown keys, a missing `name` / `file`, a `type` next to a valid `format` — accepted -/
example : SourceOk ext0 srcBank = true ∧ SourceOk ext0 srcAmex = true ∧
    SourceOk ext0 (ym [("format", ys "{date},{description},{amount}"), ("type", .int 5), ("delimiter", ym []), ("has_header", .list [])]) = true ∧
    SourceOk ext0 (ym [("format", .null), ("type", ys "amex")]) = false ∧
    SourceOk ext0 (ym [("type", .int 5)]) = false ∧ SourceOk ext0 (ym [("type", ys "visa")]) = false ∧
    SourceOk ext0 (ym [("format", ys "{date},{description},{amount}"), ("skip_negative", .bool false)]) = false ∧
    SourceOk ext0 (ym [("name", ys "x"), ("file", ys "data/a.csv")]) = false ∧
    SourceOk ext0 (ym [("format", ys "{date},{merchant},{amount}"), ("columns", ym [("description", .int 5)])]) = false ∧
    SourceOk ext0 (ym [("format", ys "{date},{description},{amount}"), ("columns", ym [("description", .int 0)])]) = true ∧
    SourceOk ext0 (ys "data/a.csv") = false ∧ SourceOk ext0 (.list [srcBank]) = false := by
  unfold srcBank srcAmex ys
  repeat rw [String.toList_ofList]
  decide +kernel

/-- `LoadOk`: the demo settings; `data_sources` a mapping / a number; `merchants_file: 5`; an empty settings file -/
example : LoadOk demoEnv demoSettings = true ∧
    LoadOk demoEnv (ym [("data_sources", ym [("a", srcBank)])]) = false ∧ LoadOk demoEnv (ym [("data_sources", .int 5)]) = false ∧
    LoadOk demoEnv (ym [("data_sources", .int 0), ("merchants_file", ys "")]) = true ∧
    LoadOk demoEnv (ym [("merchants_file", .int 5)]) = false ∧ LoadOk demoEnv .null = false ∧ LoadOk demoEnv (ym []) = true := by
  unfold demoEnv demoSettings srcBank srcOrders srcCard srcAmex ys
  repeat rw [String.toList_ofList]
  decide +kernel

/-- the three-way choice of the rules file on that budget: configured & there → `new`; configured & missing → none (NOT the
legacy CSV that exists); absent or falsy (`merchants_file: ""`) → the legacy CSV -/
example :
    (resolveConfig demoEnv (ym [("merchants_file", ys "config/merchants.rules")])).toOption.map (·.rulesFile) =
      some (.new "/b/config/merchants.rules".toList) ∧
    (resolveConfig demoEnv (ym [("merchants_file", ys "config/missing.rules")])).toOption.map (·.rulesFile) = some .none ∧
    (resolveConfig demoEnv (ym [])).toOption.map (·.rulesFile) = some (.csv "/b/config/merchant_categories.csv".toList) ∧
    (resolveConfig demoEnv (ym [("merchants_file", ys "")])).toOption.map (·.rulesFile) =
      some (.csv "/b/config/merchant_categories.csv".toList) ∧
    (resolveConfig demoEnv (ym [("merchants_file", .bool true)])).toOption = none := by
  unfold demoEnv ys
  repeat rw [String.toList_ofList]
  decide +kernel

/-- hypotheses of `plan_source_local` / `class_env_source_local` on the demo budget: replace `card` (position 2) by a source
whose file exists — both runs reach the loop, neither entry is supplemental -/
def srcCard' : Y := ym [("name", ys "Card"), ("file", ys "data/x.csv"), ("format", ys "{date},{description},{amount}"), ("delimiter", ys ";")]
def demoSettings' : Y := ym [("data_sources", .list [srcBank, srcOrders, srcCard', srcAmex]), ("rule_mode", ys "Most_Specific"),
  ("merchants_file", ys "config/missing.rules"), ("views_file", ys "config/views.rules")]
example :
    ((resolveConfig demoEnv demoSettings).toOption.bind fun k => (planSources true demoEnv k).toOption.map fun P => P.map (·.index)) = some [0, 3] ∧
    ((resolveConfig demoEnv demoSettings').toOption.bind fun k => (planSources true demoEnv k).toOption.map fun P => P.map (·.index)) = some [0, 2, 3] ∧
    (resolveSource ext0 srcCard).toOption.map (·.supplemental.truthy) = some false ∧
    (resolveSource ext0 srcCard').toOption.map (·.supplemental.truthy) = some false := by
  unfold demoEnv demoSettings demoSettings' srcBank srcOrders srcCard srcCard' srcAmex ys
  repeat rw [String.toList_ofList]
  decide +kernel

/-- the files of the demo budget and the `float()` / `strptime` answers their cells need -/
def demoWorld : World :=
  { text := fun p =>
      if p = "/b/data/a.csv".toList then some "D,T,A\n2025-01-05,UBER EATS,\"12,50\"\n2025-01-06,SHELL,40\n".toList
      else if p = "/b/data/x.csv".toList then some "Date;Description;Amount\n2025-02-01;NETFLIX;9.99\n".toList
      else none
    regex := fun _ => none
    csv := { pyFloat := fun s =>
               if s = "12.50".toList then some (Csv.F64.ofBits 0x4029000000000000)
               else if s = "40".toList then some (Csv.F64.ofBits 0x4044000000000000)
               else if s = "9.99".toList then some (Csv.F64.ofBits 0x4023FAE147AE147B) else none
             strptime := fun _ tok => .ok (tok ++ "T00:00:00".toList) }
    special := fun _ => some [] }

/-- a classifier that answers on every row -/
def demoClassify : ClassEnv → Row → Except Err Classified :=
  fun _ r => .ok ⟨r.description, "Cat", "", [], r.amount, monthOf r.date⟩

/-- **the whole chain on the demo budget, from the settings object**: `bank` is read with ITS settings (the first line skipped
because `has_header: "false"` is truthy, `12,50` a European amount, `{-amount}` switched off by `negate_amount: false`); the
supplemental, the missing and the (empty) `type: AMEX` source add nothing; with `card'` in place of `card` exactly ONE
transaction is added after the two of `bank`: hypotheses and conclusion of `settings_source_local` /
`settings_report_eq_composition` on a non-trivial input -/
example :
    (upFromSettings true demoEnv demoWorld demoClassify demoSettings).toOption.map (fun T => T.map fun t => (t.merchant, t.amount, t.month)) =
      some [("UBER EATS", 0x4029000000000000, "2025-01"), ("SHELL", 0x4044000000000000, "2025-01")] ∧
    (upFromSettings true demoEnv demoWorld demoClassify demoSettings').toOption.map (fun T => T.map fun t => (t.merchant, t.amount, t.month)) =
      some [("UBER EATS", 0x4029000000000000, "2025-01"), ("SHELL", 0x4044000000000000, "2025-01"),
            ("NETFLIX", 0x4023FAE147AE147B, "2025-02")] := by
  unfold demoEnv demoWorld demoSettings demoSettings' srcBank srcOrders srcCard srcCard' srcAmex ys
  repeat rw [String.toList_ofList]
  decide +kernel

end settings

end TallyVerif.Props.C11
