/-
C09 — most_specific mode picks the most specific matching rule, whatever the order.

Model: `Rules.matchEngine … .mostSpecific` with Python's `max(key=…)` (`pyMax`: first maximal
element) over the lexicographic specificity key `(priority, #pattern conditions, #constraint
kinds, pattern length)`.  `key`, `ev`, `fix` arbitrary (how the key is computed from the rule
text is `Rules.specificity`, tied by correspondence).
-/
import TallyVerif.Props.C02
import TallyVerif.Gen.Specificity

namespace TallyVerif.Props.C09
open TallyVerif.Rules

/-- the matching categorising rules, in file order -/
def candidates (ev : Rule → Eval) (rs : List Rule) : List Rule := (rs.filter (fun r => (ev r).hit)).filter Rule.isCat
def subCandidates (ev : Rule → Eval) (rs : List Rule) : List Rule := (rs.filter (fun r => (ev r).hit)).filter Rule.hasSub

theorem winner_spec (fix : Bool) (key : Rule → Key) (ev : Rule → Eval) (rs : List Rule) :
    let res := matchEngine fix key ev .mostSpecific rs
    res.matchedRule = pyMax key (candidates ev rs) ∧
    res.category = ((pyMax key (candidates ev rs)).map Rule.category).getD "" ∧
    res.matched = (pyMax key (candidates ev rs)).isSome ∧
    res.subcategoryRule = pyMax key (subCandidates ev rs) ∧
    res.subcategory = ((pyMax key (subCandidates ev rs)).map Rule.subcategory).getD "" := by
  simp only [matchEngine, finish_mostSpecific, runLoop_matching, candidates, subCandidates, and_self]

/-- the category comes from a matching categorising rule that no other matching categorising
rule outranks -/
theorem winner_maximal (fix : Bool) (key : Rule → Key) (ev : Rule → Eval) (rs : List Rule) (w : Rule)
    (h : (matchEngine fix key ev .mostSpecific rs).matchedRule = some w) :
    w ∈ rs ∧ (ev w).hit = true ∧ w.isCat = true ∧
    (matchEngine fix key ev .mostSpecific rs).category = w.category ∧
    ∀ r ∈ rs, (ev r).hit = true → r.isCat = true → (key w).lt (key r) = false := by
  simp only [winner_spec fix key ev rs] at h ⊢
  obtain ⟨h1, h2, h3, h4⟩ := pyMax_filter_spec h
  exact ⟨h1, h2, h3, by rw [h]; rfl, h4⟩

/-- exact ties go to the earlier rule: every candidate before the winner ranks strictly lower,
no candidate after it ranks strictly higher -/
theorem ties_to_earliest (fix : Bool) (key : Rule → Key) (ev : Rule → Eval) (rs : List Rule) (w : Rule)
    (h : (matchEngine fix key ev .mostSpecific rs).matchedRule = some w) :
    ∃ pre post, candidates ev rs = pre ++ w :: post ∧ (∀ r ∈ pre, (key r).lt (key w) = true) ∧
      (∀ r ∈ post, (key w).lt (key r) = false) := by
  rw [(winner_spec fix key ev rs).1] at h
  exact pyMax_spec h

/-- no category ⇔ no matching categorising rule -/
theorem unmatched_iff (fix : Bool) (key : Rule → Key) (ev : Rule → Eval) (rs : List Rule) :
    (matchEngine fix key ev .mostSpecific rs).matched = false ↔
      ∀ r ∈ rs, ¬ ((ev r).hit = true ∧ r.isCat = true) := by
  obtain ⟨-, -, hmatched, -, -⟩ := winner_spec fix key ev rs
  rw [hmatched, Option.isSome_eq_false_iff, Option.isNone_iff_eq_none, pyMax_none]
  simp only [candidates, List.filter_eq_nil_iff, List.mem_filter]
  exact ⟨fun h r hr ⟨h1, h2⟩ => h r ⟨hr, h1⟩ h2, fun h r ⟨hr, h1⟩ h2 => h r hr ⟨h1, h2⟩⟩

/-- The result does not depend on the order of the rules, except for exact ties: if matching
categorising rules have pairwise different keys, every permutation of the file yields the same
winning rule and category; likewise the subcategory. -/
theorem perm_invariant (fix : Bool) (key : Rule → Key) (ev : Rule → Eval) {rs rs' : List Rule}
    (p : rs.Perm rs')
    (inj : ∀ a ∈ candidates ev rs, ∀ b ∈ candidates ev rs, key a = key b → a = b) :
    (matchEngine fix key ev .mostSpecific rs).matchedRule = (matchEngine fix key ev .mostSpecific rs').matchedRule ∧
    (matchEngine fix key ev .mostSpecific rs).category = (matchEngine fix key ev .mostSpecific rs').category := by
  have pc : (candidates ev rs).Perm (candidates ev rs') := (p.filter _).filter _
  simp only [winner_spec fix key ev rs, winner_spec fix key ev rs', pyMax_perm pc inj, and_self]

theorem subcategory_perm_invariant (fix : Bool) (key : Rule → Key) (ev : Rule → Eval) {rs rs' : List Rule}
    (p : rs.Perm rs')
    (inj : ∀ a ∈ subCandidates ev rs, ∀ b ∈ subCandidates ev rs, key a = key b → a = b) :
    (matchEngine fix key ev .mostSpecific rs).subcategory = (matchEngine fix key ev .mostSpecific rs').subcategory := by
  have pc : (subCandidates ev rs).Perm (subCandidates ev rs') := (p.filter _).filter _
  simp only [winner_spec fix key ev rs, winner_spec fix key ev rs', pyMax_perm pc inj]

/-- the subcategory comes from the highest-ranked matching rule that sets one -/
theorem subcategory_maximal (fix : Bool) (key : Rule → Key) (ev : Rule → Eval) (rs : List Rule) (w : Rule)
    (h : (matchEngine fix key ev .mostSpecific rs).subcategoryRule = some w) :
    w ∈ rs ∧ (ev w).hit = true ∧ w.hasSub = true ∧
    (matchEngine fix key ev .mostSpecific rs).subcategory = w.subcategory ∧
    ∀ r ∈ rs, (ev r).hit = true → r.hasSub = true → (key w).lt (key r) = false := by
  simp only [winner_spec fix key ev rs] at h ⊢
  obtain ⟨h1, h2, h3, h4⟩ := pyMax_filter_spec h
  exact ⟨h1, h2, h3, by rw [h]; rfl, h4⟩

/-- ranking is lexicographic: explicit priority, then number of pattern conditions, then number
of constraint kinds, then total pattern length -/
theorem lex_order (a b : Key) :
    a.lt b = true ↔
      a.prio < b.prio ∨ (a.prio = b.prio ∧ (a.pats < b.pats ∨ (a.pats = b.pats ∧
        (a.kinds < b.kinds ∨ (a.kinds = b.kinds ∧ a.len < b.len))))) := Key.lt_iff a b

/-- the code's key tuple lists the four components in the order the property states
(`Gen.Specificity` is regenerated from `calculate_specificity` on every run) -/
theorem key_order_as_stated :
    TallyVerif.Gen.Specificity.keyOrder = ["priority", "pattern_count", "field_count", "pattern_length"] := rfl

/-- tags still accumulate from all matching rules (C02) -/
theorem tags_unchanged (fix : Bool) (key : Rule → Key) (ev : Rule → Eval) (rs : List Rule) (t : String) :
    t ∈ (matchEngine fix key ev .mostSpecific rs).tags ↔ ∃ r ∈ rs, (ev r).hit = true ∧ t ∈ (ev r).tags :=
  TallyVerif.Props.C02.tags_iff fix key ev .mostSpecific rs t

/-! ### non-vacuity -/
def a : Rule := ⟨1, "A", "A", "Ca", "", 50, "contains(\"UBER\")"⟩
def b : Rule := ⟨5, "B", "B", "Cb", "Sb", 50, "contains(\"UBER\") and contains(\"EATS\")"⟩
def c : Rule := ⟨9, "C", "C", "Cc", "", 50, "contains(\"UBER\") and contains(\"EATZ\")"⟩   -- ties with b
def d : Rule := ⟨13, "D", "D", "Cd", "", 60, "contains(\"U\")"⟩                              -- priority
def kx (r : Rule) : Key := if r.line == 1 then ⟨50, 1, 0, 4⟩ else if r.line == 13 then ⟨60, 1, 0, 1⟩ else ⟨50, 2, 0, 8⟩
def ex (_ : Rule) : Eval := ⟨true, [], []⟩
example : (matchEngine true kx ex .mostSpecific [a, b, c]).category = "Cb" := by decide +kernel
example : (matchEngine true kx ex .mostSpecific [a, c, b]).category = "Cc" := by decide +kernel   -- tie → earlier
example : (matchEngine true kx ex .mostSpecific [a, b, c, d]).category = "Cd" := by decide +kernel
example : (matchEngine true kx ex .mostSpecific [d, a, b]).subcategory = "Sb" := by decide +kernel

end TallyVerif.Props.C09
