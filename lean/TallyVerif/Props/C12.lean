/-
C12 — all output formats render and carry the same data (the text-level part that is in the model).

Model: `Model/Report.lean` (hand model of json.dumps' string escaping, json.loads' scanstring, the HTML
script-data end rule, report.py's embedding + placeholder chain + merchant ids + category view), tied to
the code by the correspondence streams of harness/props/c12.py.  Strings are lists of Unicode scalar
values (`List Char`); lone surrogates are outside the model.

Clauses and their status on the UNCHANGED tree:
  * round trip of every string through json.dumps / json.loads            — proved (`json_string_roundtrip`)
  * the embedded data cannot end the <script> element                      — FALSE (D12b): `embed_unsafe_unrepaired`;
                                                                             proved for the repaired embed (`embed_safe`, `embed_decodes`)
  * merchant ids are injective                                             — FALSE (D12c): `merchant_id_not_injective`;
                                                                             `merchant_id_injective_partial` on quote/underscore-free names;
                                                                             proved for the repaired allocation table, for EVERY list of
                                                                             names (`merchant_ids_unique`, `merchant_ids_injective`,
                                                                             `first_free_is_least`)
  * the data is spliced in verbatim                                        — FALSE (D12d): `placeholder_order_unrepaired_rescans`;
                                                                             proved when data is substituted last (`placeholder_order`)
  * per-category sums add up to the analysed total                         — `category_view_sums` under distinct ids (fails with D12c:
                                                                             `category_view_loses_merchant`); with the repaired ids no
                                                                             hypothesis is left (`category_view_sums_unique_ids`)
  * the per-category `typeTotals` add up to the analysed bucket totals     — `type_income_eq`, `type_investment_eq`, `type_transfer_eq`,
                                                                             `type_spending_eq` (the report's own chain, REGENERATED from
                                                                             report.py, against the regenerated `categorize_amount`, every
                                                                             number system; transfer and spending under the order laws they
                                                                             take as hypotheses) and `type_totals_add_up` (whole reports, exact)
  * all formats report the same figures                                    — FALSE for JSON (D12e): `json_summary_disagrees`
"Renders without error" (D12a, D12f) is a totality statement about the implementation; it is checked by the
oracle of the harness, not modelled here.
-/
import TallyVerif.Lemmas.Report
import TallyVerif.Lemmas.ReportTypes
import TallyVerif.Props.C06

namespace TallyVerif.Props.C12
open TallyVerif.Report

/-! ### JSON string round trip -/

/-- every string (list of scalar values) survives `json.loads(json.dumps(s))`, whatever it contains -/
theorem json_string_roundtrip (s : List Char) : jsonDecodeStr (jsonEncodeStr s) = some s :=
  decode_quoted escChar escChar_spells s

/-- `json.dumps` output is printable ASCII (so the bytes of the HTML file do not depend on an encoding) and
the only way a `<` gets into it is a raw `<` of the input: json.dumps does NOT escape `<`. -/
theorem encode_ascii_only (s : List Char) :
    (∀ x ∈ jsonEncodeStr s, 32 ≤ x.toNat ∧ x.toNat ≤ 126) ∧ ('<' ∈ jsonEncodeStr s ↔ '<' ∈ s) := by
  have key : ∀ x ∈ encBody s, (32 ≤ x.toNat ∧ x.toNat ≤ 126) ∧ (x = '<' → '<' ∈ s) := by
    intro x hx
    obtain ⟨c, hc, hxc⟩ := List.mem_flatMap.mp hx
    rcases (escChar_spells c).good with h | h
    · rw [h.1, List.mem_singleton] at hxc
      subst hxc; exact ⟨h.2, fun e => e ▸ hc⟩
    · obtain ⟨hlo, hhi, hne⟩ := h x hxc; exact ⟨⟨hlo, hhi⟩, fun e => absurd e hne⟩
  have mem : ∀ x, x ∈ jsonEncodeStr s ↔ x = '"' ∨ x ∈ encBody s := fun x => by
    simp only [jsonEncodeStr, List.mem_cons, List.mem_append, List.not_mem_nil, or_false, or_comm (b := x = '"'), or_self_left]
  refine ⟨fun x hx => ?_, fun hx => ?_, fun hs => (mem _).mpr (.inr (List.mem_flatMap.mpr ⟨'<', hs, by decide⟩))⟩
  · rcases (mem x).mp hx with rfl | hx
    · decide
    · exact (key x hx).1
  · rcases (mem _).mp hx with h | hx
    · exact absurd h (by decide)
    · exact (key _ hx).2 rfl

/-! ### embedding in `<script>` (D12b) -/

/-- REPAIRED embed (`.replace('<', '\\u003c')`): whatever JSON text is embedded, the HTML tokenizer never sees
an end tag inside the data script — indeed no `<` at all (so no `<!--` / `<script` escapes either). -/
theorem embed_safe (t : List Char) : scriptDataEnds (embedRepaired t) = false ∧ '<' ∉ embedRepaired t := by
  refine ⟨?_, embedRepaired_no_lt t⟩
  cases h : scriptDataEnds (embedRepaired t) with
  | false => rfl
  | true => exact absurd (scriptDataEnds_lt h) (embedRepaired_no_lt t)

/-- UNREPAIRED embed (the unchanged tree): the description `X </script><b>` ends the script element. -/
theorem embed_unsafe_unrepaired :
    scriptDataEnds (embedUnrepaired (jsonEncodeStr "X </script><b>".toList)) = true := by decide +kernel

/-- the extra `\u003c` escape of the repaired embed still decodes to `<`: every string survives
dumps → embed → loads -/
theorem embed_decodes (s : List Char) : jsonDecodeStr (embedRepaired (jsonEncodeStr s)) = some s := by
  have e : embedRepaired (jsonEncodeStr s) = '"' :: (s.flatMap (fun c => embedRepaired (escChar c)) ++ ['"']) := by
    simp only [jsonEncodeStr, encBody, embedRepaired, List.flatMap_cons, List.flatMap_append, List.flatMap_assoc,
      List.flatMap_nil, List.append_nil]
    rfl
  rw [e]
  exact decode_quoted _ (fun c => (escChar_spells c).embed) s

/-! ### merchant ids (D12c) -/

/-- full statement `∀ a b, makeMerchantId a = makeMerchantId b → a = b` is FALSE on the unchanged tree -/
theorem merchant_id_not_injective :
    (makeMerchantId "Joe's".toList = makeMerchantId "Joes".toList ∧ "Joe's".toList ≠ "Joes".toList) ∧
    (makeMerchantId "A B".toList = makeMerchantId "A_B".toList ∧ "A B".toList ≠ "A_B".toList) := by
  decide +kernel

/-- ids are injective on names without quotes and underscores (spaces allowed) -/
theorem merchant_id_injective_partial (a b : List Char) (ha : idSafe a = true) (hb : idSafe b = true)
    (h : makeMerchantId a = makeMerchantId b) : a = b := by
  rw [← unId_makeMerchantId ha, h, unId_makeMerchantId hb]

/-! ### placeholder substitution order (D12d) -/

/-- `str.replace` never rescans what it inserted: when the template has exactly one occurrence of the
pattern, the result is the template with the replacement spliced in verbatim — for EVERY replacement text. -/
theorem replace_verbatim (pat rep hay : List Char) (k : Nat) (hp : 1 ≤ pat.length)
    (h1 : findAt pat hay = some k) (h2 : findAt pat (hay.drop (k + pat.length)) = none) :
    replaceAll pat rep hay = hay.take k ++ rep ++ hay.drop (k + pat.length) := by
  simp only [replaceAll, List.isEmpty_eq_false_iff.mpr (List.length_pos_iff.mp hp), Bool.false_eq_true, if_false]
  rw [replaceGo_findAt pat rep hp, h1]
  dsimp only
  rw [replaceGo_findAt pat rep hp, h2]

/-- REPAIRED order (CSS, JS, DATA): whatever the data contains (placeholders included) it appears verbatim,
exactly where the data placeholder was. Hypothesis (decidable, checked on the real template every run):
after CSS and JS are in, the data placeholder occurs exactly once. -/
theorem placeholder_order (template css js data : List Char) (k : Nat)
    (h1 : findAt dataPh (replaceAll jsPh js (replaceAll cssPh css template)) = some k)
    (h2 : findAt dataPh ((replaceAll jsPh js (replaceAll cssPh css template)).drop (k + dataPh.length)) = none) :
    spliceRepaired template css data js =
      (replaceAll jsPh js (replaceAll cssPh css template)).take k ++ data ++
      (replaceAll jsPh js (replaceAll cssPh css template)).drop (k + dataPh.length) := by
  -- by the equations of `splice`: unfolding by `rfl` makes the kernel decode the placeholder literals
  rw [spliceRepaired, splice_cons, splice_cons, splice_cons, splice_nil]
  have hp : 1 ≤ dataPh.length := by unfold dataPh; rw [String.toList_ofList]; decide
  exact replace_verbatim dataPh data _ k hp h1 h2

def miniTemplate : List Char :=
  "<style>/* CSS_PLACEHOLDER */</style><script>/* DATA_PLACEHOLDER */</script><script>/* JS_PLACEHOLDER */</script>".toList

/-- UNCHANGED order (CSS, DATA, JS): data that contains the JS placeholder is rescanned — the program text is
spliced into the data. -/
theorem placeholder_order_unrepaired_rescans :
    spliceUnrepaired miniTemplate "c".toList "d=\"/* JS_PLACEHOLDER */\";".toList "J".toList
      = "<style>c</style><script>d=\"J\";</script><script>J</script>".toList := by
  -- the kernel's decoding of a string literal is quadratic in its length; as `String.ofList` of its characters it is read off
  unfold spliceUnrepaired miniTemplate cssPh dataPh jsPh
  repeat rw [String.toList_ofList]
  decide +kernel

/-! ### unique merchant ids (the repaired allocation, D12c) -/

/-- **ids are injective for EVERY list of names** — any characters, any order, repeats allowed, including names
whose natural id equals an id generated for another name (`Joe's`, `Joes`, `Joes 2`, `Joes_2`, …):
no two names share an id, no name is listed twice, and every name has an id. -/
theorem merchant_ids_unique (names : List (List Char)) :
    ((allocIds names).map (·.2)).Nodup ∧ ((allocIds names).map (·.1)).Nodup ∧
    ∀ n ∈ names, n ∈ (allocIds names).map (·.1) :=
  have ok : TableOk (allocIds names) ∧ ∀ n ∈ names, n ∈ (allocIds names).map (·.1) :=
    List.foldl_induction allocOne [] (fun l tbl => TableOk tbl ∧ ∀ n ∈ l, n ∈ tbl.map (·.1))
      ⟨⟨List.nodup_nil, List.nodup_nil⟩, fun _ h => nomatch h⟩
      (fun _ a tbl h => ⟨allocOne_ok tbl a h.1, fun n hn =>
        (mem_keys_allocOne tbl a n).mpr ((List.mem_append.mp hn).imp (h.2 n) List.mem_singleton.mp)⟩) names
  ⟨ok.1.1, ok.1.2, ok.2⟩

/-- the same, as injectivity of the map name ↦ id -/
theorem merchant_ids_injective (names : List (List Char)) (a b i : List Char)
    (ha : (a, i) ∈ allocIds names) (hb : (b, i) ∈ allocIds names) : a = b :=
  congrArg Prod.fst (List.eq_of_nodup_map (merchant_ids_unique names).1 ha hb rfl)

/-- distinct names (the keys of `by_merchant`) come out in the same order: the table drops and reorders nothing -/
theorem merchant_ids_keys (names : List (List Char)) (h : names.Nodup) : (allocIds names).map (·.1) = names := by
  refine List.foldl_induction allocOne [] (fun l tbl => l.Nodup → tbl.map (·.1) = l) (fun _ => rfl) (fun l a tbl ih h => ?_) names h
  rw [List.nodup_concat] at h
  rw [allocOne_keys, ih h.1, if_neg (mt List.contains_iff_mem.mp h.2)]

/-- the model's bounded loop IS the `while candidate in merchant_ids.values()` loop: started with as much fuel as
there are ids, it returns candidate number `k` where every candidate `1 … k-1` is taken and candidate `k` is free
(so the fuel bound is never what stops it) -/
theorem first_free_is_least (used : List (List Char)) (base : List Char) :
    ∃ k, 1 ≤ k ∧ firstFree used base used.length 1 = idCandidate base k ∧
      (∀ j, 1 ≤ j → j < k → idCandidate base j ∈ used) ∧ idCandidate base k ∉ used :=
  firstFree_least used base

/-- a generated id can coincide with another name's natural id — the allocation must look at the ids handed out,
not only at the bases seen: with `Joe's`, `Joes`, `Joes 2` the third name cannot keep `Joes_2` -/
theorem merchant_ids_generated_vs_natural :
    allocIds ["Joe's".toList, "Joes".toList, "Joes 2".toList] =
      [("Joe's".toList, "Joes".toList), ("Joes".toList, "Joes_2".toList), ("Joes 2".toList, "Joes_2_2".toList)] ∧
    allocIds ["Joes 2".toList, "Joe's".toList, "Joes".toList] =
      [("Joes 2".toList, "Joes_2".toList), ("Joe's".toList, "Joes".toList), ("Joes".toList, "Joes_3".toList)] := by
  repeat rw [String.toList_ofList]
  decide +kernel

/-! ### category view (build_category_view) -/

/-- with pairwise distinct merchant ids every merchant reaches the category view and the per-category sums add
up to Σ by_merchant.total -/
theorem category_view_sums (rows : List MRow) (h : idsDistinct rows = true) :
    (allMerchants rows).map (·.2) = rows ∧
    categoryViewTotal rows = analysedTotal rows ∧
    ((categoryViewSums rows).map (·.2)).sum = analysedTotal rows := by
  have e := allMerchants_distinct ((idsDistinct_iff rows).mp h)
  have ht : categoryViewTotal rows = analysedTotal rows := by
    simp only [categoryViewTotal, analysedTotal, e, List.map_map]; rfl
  -- the per-category sums regroup the view's merchants, whichever merchants reached it
  have hs : ((categoryViewSums rows).map (·.2)).sum = categoryViewTotal rows :=
    List.foldl_induction (fun acc (kv : List Char × MRow) => addTo acc kv.2.cat kv.2.ytd) [] (fun l acc => (acc.map (·.2)).sum = (l.map (·.2.ytd)).sum) rfl
      (fun l a acc ih => by rw [addTo_sum, ih, List.map_append, List.sum_append, List.map_singleton, List.sum_singleton]) _
  exact ⟨by rw [e, List.map_map]; simp [Function.comp_def], ht, hs.trans ht⟩

/-- with the ids of the allocation table NO hypothesis is left: for every list of merchant names and whatever
`by_merchant` holds for them, every merchant reaches the category view and the sums add up; when the names are
distinct (dict keys) the view lists exactly the analysed totals, merchant by merchant, in order -/
theorem category_view_sums_unique_ids (names : List (List Char)) (data : List Char → MRow) :
    (allMerchants (rowsOf names data)).map (·.2) = rowsOf names data ∧
    categoryViewTotal (rowsOf names data) = analysedTotal (rowsOf names data) ∧
    ((categoryViewSums (rowsOf names data)).map (·.2)).sum = analysedTotal (rowsOf names data) ∧
    (names.Nodup → (rowsOf names data).map (·.ytd) = names.map fun n => (data n).ytd) := by
  have hd : idsDistinct (rowsOf names data) = true := by
    rw [idsDistinct_iff, rowsOf, List.map_map]; exact (merchant_ids_unique names).1
  obtain ⟨h1, h2, h3⟩ := category_view_sums _ hd
  refine ⟨h1, h2, h3, fun hn => ?_⟩
  conv => rhs; rw [← merchant_ids_keys names hn]
  rw [rowsOf, List.map_map, List.map_map]; rfl

def joeRows : List MRow :=
  [⟨makeMerchantId "Joe's".toList, "Food".toList, "R".toList, 1000, 1⟩,
   ⟨makeMerchantId "Joes".toList, "Food".toList, "R".toList, 250, 1⟩]

/-- D12c consequence: with colliding ids one merchant is lost and the sums no longer add up -/
theorem category_view_loses_merchant :
    (allMerchants joeRows).length = 1 ∧ categoryViewTotal joeRows = 250 ∧ analysedTotal joeRows = 1250 := by
  decide +kernel

/-! #### amounts that are not whole cents
`ytd` is an `Int` number of an ARBITRARY unit, so `category_view_sums` covers amounts with any number of decimals (the harness
scales a case by the power of ten at which all its amounts are whole: cents, or 10⁻³ … 10⁻⁶ for fuel / converted-currency /
per-mille-fee amounts).  What it needs is that the view holds each merchant's total AS ANALYSED.  A report that re-rounds the
embedded totals (say to the cent, "for display") has distinct ids and all merchants and still does not add up: -/

/-- embed each merchant's ytd rounded to a multiple of `q` units -/
def reRound (q : Int) (rows : List MRow) : List MRow := rows.map fun r => { r with ytd := (r.ytd + q / 2) / q * q }

/-- unit 10⁻⁴: a 0.004 fee, a 0.0049 fee, 183.4449 of fuel -/
def feeRows : List MRow :=
  [⟨"Fee_A".toList, "Fees".toList, "Bank".toList, 40, 1⟩, ⟨"Fee_B".toList, "Fees".toList, "Bank".toList, 49, 1⟩,
   ⟨"Fuel".toList, "Transport".toList, "Fuel".toList, 1834449, 1⟩]

example : idsDistinct feeRows = true ∧ categoryViewTotal feeRows = 1834538 ∧ analysedTotal feeRows = 1834538 := by decide +kernel

/-- totals re-rounded to the cent (100 units of 10⁻⁴): every merchant is there, the ids are distinct, and the category sums give
183.44 where 183.4538 was analysed — the clause "per-category sums add up to the analysed totals" needs the totals unrounded -/
theorem rerounded_totals_do_not_add_up :
    idsDistinct (reRound 100 feeRows) = true ∧ (allMerchants (reRound 100 feeRows)).length = 3 ∧
    categoryViewTotal (reRound 100 feeRows) = 1834400 ∧ analysedTotal feeRows = 1834538 := by
  decide +kernel

/-! ### figures (D12e) -/

def d12eWitness : List FTxn :=
  [⟨"M".toList, 1000, false, false, false⟩, ⟨"M".toList, -300, false, false, false⟩,
   ⟨"Emp".toList, -10000, true, false, false⟩, ⟨"Emp".toList, 2000, false, false, false⟩]

/-- export_json's summary (recomputed from merchant totals and merchant-level tags) disagrees with the
transaction-level figures every other format prints: income 120 vs 100, credits 0 vs 3, cash flow 193 vs 73 -/
theorem json_summary_disagrees :
    flowIncome d12eWitness = 10000 ∧ flowCredits d12eWitness = 300 ∧ flowCash d12eWitness = 7300 ∧
    jsonIncome d12eWitness = 12000 ∧ jsonCredits d12eWitness = 0 ∧ jsonNet d12eWitness = some 19300 := by
  decide +kernel

/-! ## dates (the calendar stream of the check)

"Renders without error for any analysable set of transactions" is a totality statement about the implementation (oracle
only).  What the model contributes is the two calendar facts every date position of the report rests on. -/

/-- Month keys separate calendar months: two days have the same `'%Y-%m'` key only if they are in the same month OF THE SAME
YEAR (years up to 9999).  So `num_months`, `by_month` and the monthly table never merge December 2024 with December 2025,
nor 29 Feb 2000 with 29 Feb 2400. -/
theorem month_key_injective (y m y' m' : Nat) (hy : y < 10000) (hy' : y' < 10000) (hm : m < 100) (hm' : m' < 100)
    (h : monthKey y m = monthKey y' m') : y = y' ∧ m = m' := by
  have := List.append_inj h rfl
  exact ⟨pad4_inj hy hy' this.1, pad2_inj hm hm' (List.cons.inj this.2).2⟩

/-- The day text `'%m/%d'` has forgotten the year, and the year matters: every day that exists in SOME year exists in the
year `y0` exactly when `y0` is a leap year.  Reading `'MM/DD'` back as a date under a fixed non-leap year (strptime's
default is 1900) is therefore partial - it has no answer for `02/29` - while any leap default is total. -/
theorem day_key_needs_leap_year (y0 : Nat) :
    (∀ y m d, validDay y m d = true → validDay y0 m d = true) ↔ isLeap y0 = true := by
  constructor
  · intro h
    have h29 := h 2000 2 29 (by decide)
    simp only [validDay, daysIn, Bool.and_eq_true, decide_eq_true_eq, if_true] at h29
    cases hl : isLeap y0 with
    | true => rfl
    | false => simp [hl] at h29
  · intro hl y m d hv
    have key : daysIn y m ≤ daysIn y0 m := by
      unfold daysIn
      by_cases h2 : m = 2
      · simp only [h2, if_true, hl]; split <;> omega
      · simp only [h2, if_false]; exact Nat.le_refl _
    simp only [validDay, Bool.and_eq_true, decide_eq_true_eq] at hv ⊢
    exact ⟨hv.1, Nat.le_trans hv.2 key⟩

/-- 1900 - the year `strptime` assumes when the format has none - is not a leap year, 2024 is: 29 Feb 2024 is a day, its
`'02/29'` is not a day of 1900 -/
theorem leap_day_witness : validDay 2024 2 29 = true ∧ dayKey 2 29 = "02/29".toList ∧ validDay 1900 2 29 = false ∧
    isLeap 1900 = false ∧ isLeap 2000 = true ∧ isLeap 2100 = false := by decide

/-- a statement across a year end: two month keys, in order of appearance; all transactions in one month: one -/
example : monthsSeen [(2024, 12, 31), (2025, 1, 1), (2024, 12, 1)] = ["2024-12".toList, "2025-01".toList] ∧
    numMonths [(2024, 2, 29), (2024, 2, 1), (2024, 2, 29)] = 1 ∧ numMonths [(2000, 2, 29), (2400, 2, 29)] = 2 := by decide +kernel

/-! ### non-vacuity -/

example : jsonEncodeStr "a\"\\\n<é😀".toList = "\"a\\\"\\\\\\n<\\u00e9\\ud83d\\ude00\"".toList := by
  repeat rw [String.toList_ofList]
  decide +kernel
example : jsonDecodeStr "\"\\u003c\\/\\ud83d\\ude00\"".toList = some "</😀".toList := by
  repeat rw [String.toList_ofList]
  decide +kernel
example : jsonDecodeStr "\"\\ud83d\"".toList = none := by decide +kernel
example : scriptDataEnds "x</SCRIPT >".toList = true ∧ scriptDataEnds "x</scripts>".toList = false := by decide +kernel
example : idSafe "Whole Foods".toList = true ∧ idSafe "Joe's".toList = false := by decide +kernel
example : idsDistinct [⟨"A".toList, "F".toList, [], 5, 1⟩, ⟨"B".toList, "G".toList, [], -7, 2⟩] = true := by decide +kernel
example : findAt dataPh (replaceAll jsPh "J".toList (replaceAll cssPh "c".toList miniTemplate)) = some 24 ∧
    findAt dataPh ((replaceAll jsPh "J".toList (replaceAll cssPh "c".toList miniTemplate)).drop (24 + dataPh.length)) = none := by
  unfold miniTemplate cssPh dataPh jsPh
  repeat rw [String.toList_ofList]
  decide +kernel
example : spliceRepaired miniTemplate "c".toList "d=\"/* JS_PLACEHOLDER */\";".toList "J".toList
    = "<style>c</style><script>d=\"/* JS_PLACEHOLDER */\";</script><script>J</script>".toList := by
  unfold spliceRepaired miniTemplate cssPh dataPh jsPh
  repeat rw [String.toList_ofList]
  decide +kernel

/-! ### the per-category `typeTotals` (report.py carries its own copy of the classification)

`Gen.ReportTypes.type_contrib` is REGENERATED from the if/elif chain of `build_category_view`'s transaction loop on every run
(harness/translate/report_types.py), `Gen.ClassPy.categorize_amount` from classification.py.  The first four theorems are about one
transaction in any number system (IEEE doubles included), amount and tag list: income and investment outright, transfer and
spending under the order laws they take as hypotheses (true of doubles and of exact amounts).  `type_totals_add_up` lifts them to
whole reports over exact amounts: the per-category sums of the report data add up to the analysed totals. -/
section typeTotals
open TallyVerif TallyVerif.Gen TallyVerif.Gen.ReportTypes TallyVerif.ReportTypes TallyVerif.Totals
variable (N : NumLike) (lower : String → String) (amount : N.α) (tags : Option (List String))

/-- the report's income decision is `categorize_amount`'s, for every number system, amount and tag list -/
theorem type_income_eq :
    (type_contrib N lower amount tags).income = (ClassPy.categorize_amount N lower amount tags).income :=
  contrib_cases N lower amount tags (fun r c => r.income = c.income) rfl rfl (by split <;> rfl) (by split <;> split <;> rfl)

/-- … and so is its investment decision (investment before transfer, as in `categorize_amount`) -/
theorem type_investment_eq :
    (type_contrib N lower amount tags).investment = (ClassPy.categorize_amount N lower amount tags).investment :=
  contrib_cases N lower amount tags (fun r c => r.investment = c.investment) rfl rfl (by split <;> rfl)
    (by split <;> split <;> rfl)

/-- the transfer figure of the report is `transfer_in` for a positive amount and `transfer_out` otherwise - given that `abs`
is the identity on positive amounts (true of doubles and of exact amounts) -/
theorem type_transfer_eq (habs : ∀ a : N.α, N.gt a N.zero = true → N.abs a = a) :
    (type_contrib N lower amount tags).transfer =
      if N.gt amount N.zero = true then (ClassPy.categorize_amount N lower amount tags).transfer_in
      else (ClassPy.categorize_amount N lower amount tags).transfer_out := by
  refine contrib_cases N lower amount tags
    (fun r c => r.transfer = if N.gt amount N.zero = true then c.transfer_in else c.transfer_out)
    (by split <;> rfl) (by split <;> rfl) ?_ ?_
  · by_cases h : N.gt amount N.zero = true
    · simp only [if_pos h]; exact habs _ h
    · simp only [if_neg h]
  · by_cases h : N.gt amount N.zero = true
    · simp only [if_pos h]; split <;> rfl
    · simp only [if_neg h]; split <;> rfl

/-- spending: the report tests `amount >= 0`, the analysis `amount > 0`; they add the same figure given that an amount that
is `>= 0` and not `> 0` IS zero and that `> 0` implies `>= 0` -/
theorem type_spending_eq (hz : ∀ a : N.α, N.ge a N.zero = true → N.gt a N.zero = false → a = N.zero)
    (hge : ∀ a : N.α, N.gt a N.zero = true → N.ge a N.zero = true) :
    (type_contrib N lower amount tags).spending = (ClassPy.categorize_amount N lower amount tags).spending := by
  refine contrib_cases N lower amount tags (fun r c => r.spending = c.spending) rfl rfl (by split <;> rfl) ?_
  by_cases h : N.gt amount N.zero = true
  · simp only [if_pos h, if_pos (hge _ h)]
  · by_cases h' : N.ge amount N.zero = true
    · simp only [if_neg h, if_pos h']; exact hz _ h' (Bool.eq_false_iff.mpr h)
    · simp only [if_neg h, if_neg h']

-- `type_transfer_eq` says which of the two buckets gets the figure; the sum also needs the other one to be zero, so the four tag
-- classes are gone through again
private theorem int_transfer (lower : String → String) (a : Int) (tags : Option (List String)) :
    (type_contrib intNum lower a tags).transfer =
      (ClassPy.categorize_amount intNum lower a tags).transfer_in + (ClassPy.categorize_amount intNum lower a tags).transfer_out := by
  refine contrib_cases intNum lower a tags (fun r c => r.transfer = c.transfer_in + c.transfer_out) rfl rfl ?_ ?_
  · simp only [decide_eq_true_eq]; split <;> split <;> dsimp only <;> omega
  · split <;> split <;> rfl

/-- **The per-category `typeTotals` of the report data add up to the analysed totals** (exact amounts, every list of
transactions, every assignment of categories, every lower-casing function): income to income, investment to investment,
transfer to transfers in + transfers out, spending to spending - the report's own chain (regenerated from report.py) against
`analyze_transactions` over `categorize_amount` (regenerated from classification.py). -/
theorem type_totals_add_up (lower : String → String) (l : List T) :
    ttSum (·.income) (typeTotalsByCat intNum lower l) = (analyze intNum lower l).income ∧
    ttSum (·.investment) (typeTotalsByCat intNum lower l) = (analyze intNum lower l).investment ∧
    ttSum (·.transfer) (typeTotalsByCat intNum lower l) = (analyze intNum lower l).transfersIn + (analyze intNum lower l).transfersOut ∧
    ttSum (·.spending) (typeTotalsByCat intNum lower l) = (analyze intNum lower l).spending := by
  have hf := TallyVerif.Props.C06.flow_totals lower l
  simp only [TallyVerif.Props.C06.flowOf, TallyVerif.Props.C06.flowSpec, TallyVerif.Props.C06.Flow.mk.injEq,
    TallyVerif.Props.C06.cat] at hf
  obtain ⟨hinc, hspend, -, hin, hout, hinv, -, -⟩ := hf
  refine ⟨?_, ?_, ?_, ?_⟩
  · rw [hinc]
    exact type_totals_regroup lower rfl (fun _ _ => rfl) (fun t => type_income_eq intNum lower t.amount t.tags) l
  · rw [hinv]
    exact type_totals_regroup lower rfl (fun _ _ => rfl) (fun t => type_investment_eq intNum lower t.amount t.tags) l
  · rw [hin, hout, ← Totals.sumBy_add]
    exact type_totals_regroup lower rfl (fun _ _ => rfl) (fun t => int_transfer lower t.amount t.tags) l
  · rw [hspend]
    exact type_totals_regroup lower rfl (fun _ _ => rfl) (fun t => type_spending_eq intNum lower t.amount t.tags
      (fun a h1 h2 => by simp only [decide_eq_true_eq, decide_eq_false_iff_not] at h1 h2 ⊢; omega)
      (fun a h => by simp only [decide_eq_true_eq] at h ⊢; omega)) l

def sampleTxns : List T :=
  [⟨-2000, some ["Income"], "Emp", "Income", "Salary", "2025-01"⟩, ⟨500, some ["transfer", "INVESTMENT"], "Broker", "Savings", "", "2025-01"⟩,
   ⟨-300, some ["Transfer"], "Bank", "Savings", "", "2025-02"⟩, ⟨1250, none, "Shop", "Food", "G", "2025-02"⟩, ⟨-40, some [], "Shop", "Food", "G", "2025-02"⟩,
   ⟨0, some ["x"], "Zero", "Food", "G", "2025-03"⟩]

/-- non-vacuity, with a transaction tagged both transfer and investment (investment wins on both sides) -/
example : typeTotalsByCat intNum asciiLower sampleTxns =
    [("Income", ⟨0, 2000, 0, 0⟩), ("Savings", ⟨0, 0, 500, 300⟩), ("Food", ⟨1250, 0, 0, 0⟩)] ∧
    (analyze intNum asciiLower sampleTxns).investment = 500 ∧ (analyze intNum asciiLower sampleTxns).transfersOut = 300 := by
  decide +kernel

end typeTotals

end TallyVerif.Props.C12
