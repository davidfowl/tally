/-
C08 — a rule that fails to evaluate is skipped; it never aborts classification.

Model: `Engine.matchTxn` = `MerchantEngine.match` end to end (evaluator `Expr.eval` + rule-list
algorithm), with `evalRoot true` = `_eval_Expression` after the D8 repair (every Python exception
raised inside evaluation becomes ExpressionError at the expression root).  All statements are for
every oracle family, context, rule list and expression.  `Err.unmodelled` is the model's own
"I do not cover this construct" outcome; it is not an exception of the implementation, so the
totality statements read "…unless the model gives up".
-/
import TallyVerif.Model.Engine
import TallyVerif.Props.C01

namespace TallyVerif.Props.C08
open TallyVerif.Py TallyVerif.Expr TallyVerif.Rules TallyVerif.Engine

/-- only the model's own give-up outcome; never an implementation exception -/
def ModelGaveUp (e : Err) : Prop := ∃ w, e = .unmodelled w

/-- After the repair no Python exception leaves an expression root: evaluation yields a value, an
ExpressionError, or the model gives up. -/
theorem root_raises_only_expression_error (o : Oracles) (ctx : Ctx) (e : Expr) (err : Err)
    (h : evalRoot true o ctx e = .error err) : (∃ t, err = .expr t) ∨ ModelGaveUp err := by
  unfold evalRoot at h
  split at h
  · cases h                                   -- a value
  · simp at h; exact Or.inl ⟨_, h.symm⟩       -- a Python exception, converted
  · rename_i err' hne _                       -- any other error is passed on, and is not `.py`
    cases err' with
    | expr t => simp at h; exact Or.inl ⟨t, h.symm⟩
    | py c => exact absurd rfl (hne c)
    | unmodelled w => simp at h; exact Or.inr ⟨w, h.symm⟩

/-- The code as pinned (`convert = false`) lets a Python exception through: `amount > "x"`. -/
theorem root_leaks_unrepaired :
    let o : Oracles := ⟨fun _ => none, fun _ => none, fun _ _ => none, fun _ _ => none, fun _ _ _ => none,
      fun _ _ => none, fun _ => none, fun _ => none, fun _ _ => none, fun _ _ => none⟩
    let ctx : Ctx := ⟨"A", .int 5, none, "", "", none, [], [], []⟩
    let e : Expr := .cmp (.name "amount") [.mk .gt (.const (.str "x"))]
    outcomeTag (evalRoot false o ctx e) = "TypeError" ∧ outcomeTag (evalRoot true o ctx e) = "ExpressionError" := by
  decide +kernel

/-- a computation whose only failure is the model giving up -/
def GivesUpOnly {α : Type} (x : Except Err α) : Prop := ∀ err, x = .error err → ModelGaveUp err

private theorem givesUpOnly_ok {α : Type} {a : α} : GivesUpOnly (.ok a : Except Err α) := fun _ h => nomatch h

private theorem givesUpOnly_bind {α β : Type} {x : Except Err α} {f : α → Except Err β} (hx : GivesUpOnly x) (hf : ∀ a, GivesUpOnly (f a)) :
    GivesUpOnly (x >>= f) := by
  intro err h
  cases x with
  | error e => cases h; exact hx _ rfl
  | ok a => exact hf a err h

private theorem givesUpOnly_map {α β : Type} {x : Except Err α} {f : α → β} (hx : GivesUpOnly x) : GivesUpOnly (x.map f) := by
  intro err h
  cases x with
  | error e => cases h; exact hx _ rfl
  | ok a => cases h

private theorem givesUpOnly_error {α : Type} {err : Err} (h : ModelGaveUp err) : GivesUpOnly (.error err : Except Err α) :=
  fun _ h' => (Except.error.inj h') ▸ h

private theorem givesUpOnly_abort {α : Type} {o : Oracles} {ctx : Ctx} {e : PExpr} {err : Err}
    (h : caught (evalP true o ctx e) = .abort err) : GivesUpOnly (.error err : Except Err α) := by
  refine givesUpOnly_error ?_
  unfold caught at h
  split at h
  · cases h
  · cases h
  · rename_i e' hne heq                       -- `abort`: an error that is not `.expr`
    cases h
    cases e with
    | none => exact absurd (Except.error.inj heq).symm (hne _)
    | some x => exact (root_raises_only_expression_error o ctx x _ heq).resolve_left fun ⟨t, ht⟩ => hne t ht

private theorem evalVariables_total (o : Oracles) (ctx : Ctx) (vs : List (String × PExpr)) : GivesUpOnly (evalVariables true o ctx vs) := by
  fun_induction evalVariables true o ctx vs
  · exact givesUpOnly_ok
  · exact givesUpOnly_abort ‹_›               -- the variable's expression aborts
  · assumption
  · exact givesUpOnly_map ‹_›

private theorem evalLets_total (o : Oracles) (ctx : Ctx) (ls : List (String × PExpr)) (vars : List (String × Val)) :
    GivesUpOnly (evalLets true o ctx ls vars) := by
  fun_induction evalLets true o ctx ls vars
  · exact givesUpOnly_ok
  · exact givesUpOnly_abort ‹_›               -- the binding's expression aborts
  · assumption
  · assumption

private theorem pyLower_total (o : Oracles) (s : String) : GivesUpOnly (pyLower o s) := by
  fun_cases pyLower o s
  · exact givesUpOnly_ok
  · exact givesUpOnly_ok
  · exact givesUpOnly_error ⟨_, rfl⟩      -- not ASCII, and the oracle has no answer: `needE`

private theorem pyStr_total (o : Oracles) (v : Val) : GivesUpOnly (pyStr o v) := by
  fun_cases pyStr o v
  case case5 => exact givesUpOnly_error ⟨_, rfl⟩      -- a float the oracle has no `str()` of: `needE`
  case case8 => exact givesUpOnly_error ⟨_, rfl⟩      -- list, row, …: `str()` of these is not modelled
  all_goals exact givesUpOnly_ok

private theorem tagOf_total (o : Oracles) (v : Val) : GivesUpOnly (tagOf o v) :=
  givesUpOnly_bind (pyStr_total o v) fun _ => pyLower_total o _

private theorem foldTags_total (o : Oracles) (xs : List Val) (acc : List String) :
    GivesUpOnly (xs.foldlM (fun acc x => do let s ← tagOf o x; pure (acc ++ [s])) acc : Except Err (List String)) := by
  induction xs generalizing acc with
  | nil => exact givesUpOnly_ok
  | cons x xs ih =>
    rw [List.foldlM_cons]
    exact givesUpOnly_bind (givesUpOnly_bind (tagOf_total o x) fun _ => givesUpOnly_ok) fun _ => ih _

private theorem resolveTags_total (o : Oracles) (ctx : Ctx) (ts : List TagSpec) : GivesUpOnly (resolveTags true o ctx ts) := by
  fun_induction resolveTags true o ctx ts
  · exact givesUpOnly_ok
  · assumption
  · exact givesUpOnly_bind (pyLower_total o _) fun _ => givesUpOnly_bind ‹_› fun _ => givesUpOnly_ok    -- `.static t`
  · exact givesUpOnly_abort ‹_›               -- `.dynamic e`, and `e` aborts
  · assumption
  -- `.dynamic e` with a value, which is falsy, a list, or one tag
  · refine givesUpOnly_bind ?_ fun _ => givesUpOnly_bind ‹_› fun _ => givesUpOnly_ok
    split
    · exact givesUpOnly_ok
    · split
      · exact foldTags_total o _ _
      · exact givesUpOnly_bind (tagOf_total o _) fun _ => givesUpOnly_ok

private theorem evalFields_total (o : Oracles) (ctx : Ctx) (fs : List (String × PExpr)) : GivesUpOnly (evalFields true o ctx fs) := by
  fun_induction evalFields true o ctx fs
  · exact givesUpOnly_ok
  · exact givesUpOnly_abort ‹_›               -- the field's expression aborts
  · assumption
  · exact givesUpOnly_map ‹_›

private theorem ruleBody_total (o : Oracles) {c : Ctx} (r : RuleX) : GivesUpOnly (ruleBody true o c r) := by
  fun_cases ruleBody true o c r
  · exact givesUpOnly_abort ‹_›                                       -- `match:` aborts
  · exact givesUpOnly_ok
  · exact givesUpOnly_ok
  · exact givesUpOnly_error (resolveTags_total o c r.tags _ ‹_›)      -- the tags fail
  · exact givesUpOnly_error (evalFields_total o c r.fields _ ‹_›)     -- the fields fail
  · exact givesUpOnly_ok

private theorem evalRule_total (o : Oracles) (ctx : Ctx) (g : List (String × Val)) (r : RuleX) : GivesUpOnly (evalRule true o ctx g r) := by
  fun_cases evalRule true o ctx g r
  · exact ruleBody_total o r
  · exact givesUpOnly_error (evalLets_total o ctx r.lets g _ ‹_›)     -- the `let:` bindings fail
  · exact ruleBody_total o r

private theorem evalRules_total (o : Oracles) (ctx : Ctx) (g : List (String × Val)) (rs : List RuleX) : GivesUpOnly (evalRules true o ctx g rs) := by
  induction rs with
  | nil => exact givesUpOnly_ok
  | cons r rs ih => exact givesUpOnly_bind (evalRule_total o ctx g r) fun _ => givesUpOnly_bind ih fun _ => givesUpOnly_ok

/-- **Classification completes.** With the repaired evaluator root, `MerchantEngine.match` never
aborts on an implementation exception, whatever the rules, variables, lets, tags and field
expressions are and whatever the transaction is (the only non-`ok` outcome is the model giving up
on a construct it does not cover). -/
theorem match_total (fixD2 : Bool) (key : Rule → Key) (o : Oracles) (ctx : Ctx) (mode : Mode)
    (variables : List (String × PExpr)) (rules : List RuleX) (err : Err)
    (h : matchTxn true fixD2 key o ctx mode variables rules = .error err) : ModelGaveUp err :=
  givesUpOnly_bind (evalVariables_total o ctx variables)
    (fun g => givesUpOnly_bind (evalRules_total o ctx g rules) fun _ => givesUpOnly_ok) err h

/-- a rule whose `match:` cannot be evaluated (ExpressionError at the root — which after the
repair includes every ill-typed or partial expression) simply does not match.  Stated for a rule without `let:`
bindings (`hl`): with bindings the model may give up while it evaluates them. -/
theorem failing_match_is_nonmatch (o : Oracles) (ctx : Ctx) (g : List (String × Val)) (r : RuleX)
    (hl : r.lets = []) (t : String) (h : evalP true o { ctx with variables := g } r.matchE = .error (.expr t)) :
    (evalRule true o ctx g r).map (·.hit) = .ok false := by
  rw [evalRule, hl, List.isEmpty_nil, if_pos rfl, ruleBody, h]
  rfl

/-- … and a rule that does not match has no influence on any part of what the rule-list algorithm returns: C01
`nonmatching_irrelevant`, here for an arbitrary per-rule evaluation `ev`.  In `matchTxn` that evaluation is `evOf` of the
table `evalRules` builds; the two are not composed into a statement about `matchTxn` here. -/
theorem failing_rule_absent (fixD2 : Bool) (key : Rule → Key) (ev : Rule → Rules.Eval) (mode : Mode) (rs : List Rule) :
    matchEngine fixD2 key ev mode (rs.filter (fun r => (ev r).hit)) = matchEngine fixD2 key ev mode rs :=
  TallyVerif.Props.C01.nonmatching_irrelevant fixD2 key ev mode rs

/-- a `let:` that cannot be evaluated binds `None` and evaluation goes on -/
theorem failing_let_binds_none (o : Oracles) (ctx : Ctx) (n : String) (e : PExpr) (rest : List (String × PExpr))
    (vars : List (String × Val)) (t : String)
    (h : evalP true o { ctx with variables := vars } e = .error (.expr t)) :
    evalLets true o ctx ((n, e) :: rest) vars = evalLets true o ctx rest (setKV n .none vars) := by
  simp [evalLets, caught, h]

/-- a `field:` that cannot be evaluated is omitted -/
theorem failing_field_omitted (o : Oracles) (ctx : Ctx) (n : String) (e : PExpr) (rest : List (String × PExpr)) (t : String)
    (h : evalP true o ctx e = .error (.expr t)) :
    evalFields true o ctx ((n, e) :: rest) = evalFields true o ctx rest := by
  simp [evalFields, caught, h]

/-- a `{expression}` tag that cannot be evaluated is dropped -/
theorem failing_tag_dropped (o : Oracles) (ctx : Ctx) (e : PExpr) (rest : List TagSpec) (t : String)
    (h : evalP true o ctx e = .error (.expr t)) :
    resolveTags true o ctx (.dynamic e :: rest) = resolveTags true o ctx rest := by
  simp [resolveTags, caught, h]

/-- a top-level variable that cannot be evaluated is skipped -/
theorem failing_variable_skipped (o : Oracles) (ctx : Ctx) (n : String) (e : PExpr) (rest : List (String × PExpr)) (t : String)
    (h : evalP true o { ctx with variables := [] } e = .error (.expr t)) :
    evalVariables true o ctx ((n, e) :: rest) = evalVariables true o ctx rest := by
  simp [evalVariables, caught, h]

/-! ### non-vacuity: an ill-typed rule between two good ones -/

def noOracle : Oracles := ⟨fun _ => none, fun _ => none, fun _ _ => none, fun _ _ => none, fun _ _ _ => none,
  fun _ _ => none, fun _ => none, fun _ => none, fun _ _ => none, fun _ _ => none⟩
def ctxEx : Ctx := ⟨"UBER EATS", .int 25, none, "", "", none, [], [], ["contains"]⟩
def bad : RuleX := ⟨⟨1, "Bad", "Bad", "X", "", 50, "amount > \"x\""⟩, [], some (.cmp (.name "amount") [.mk .gt (.const (.str "x"))]), [], []⟩
def good : RuleX := ⟨⟨5, "Good", "Good", "Food", "", 50, "contains(\"uber\")"⟩, [], some (.callName "contains" [.const (.str "uber")]),
  [.static "t", .dynamic (some (.callName "contains" [.const (.int 5)]))], []⟩
def keyEx (_ : Rule) : Key := ⟨50, 1, 0, 1⟩

example : resultTag (matchTxn true true keyEx noOracle ctxEx .firstMatch [] [bad, good]) = "Good|Food||t" := by
  decide +kernel
example : resultTag (matchTxn false true keyEx noOracle ctxEx .firstMatch [] [bad, good]) = "TypeError" := by
  decide +kernel

end TallyVerif.Props.C08
