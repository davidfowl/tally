/-
C13 — the report's in-browser classification equals the command-line classification.

Both sides are REGENERATED from /repo on every run:
  `Gen.ClassPy`  from src/tally/classification.py
  `Gen.ClassJs`  from the TRANSACTION CLASSIFICATION block of src/tally/spending_report.js
The theorems quantify over every number system `N : NumLike` (so IEEE doubles with NaN and
-0.0, exact cents, …), every lower-casing function `lower` shared by the two sides, every
amount and every tag list (missing, empty, any strings).

The two languages do NOT in fact share one lower-casing function: Python's `str.lower` and
JavaScript's `toLowerCase` follow the Unicode tables of their own runtimes (e.g. CPython 3.12 =
Unicode 15.0, node 20 = Unicode 17.0: they differ on the letters added in between), and a change
of either side to another normalisation (`casefold`, `toLocaleLowerCase`, NFKC, trimming, accent
folding …) makes them differ on `ſ`, `ı`, `İ`, `ﬆ`, full-width letters, ….  The second group of
theorems (`*_eq_of_specialAgree`) therefore takes the two lower-casing functions SEPARATELY and
states the exact hypothesis under which the two programs still agree: `specialAgree`, i.e. for
each of the three special words, some tag of the list lower-cases to it on the JavaScript side
exactly when one does on the Python side.  The check evaluates this (decidable) hypothesis with
the real `str.lower` / `toLowerCase` on every generated tag list and runs both generated models
with the recorded per-tag images of the two functions.
-/
import TallyVerif.Gen.ClassPy
import TallyVerif.Gen.ClassJs
import TallyVerif.Lemmas.ClassSets
import TallyVerif.Model.Num

namespace TallyVerif.Props.C13
open TallyVerif TallyVerif.Gen

/-- bucket and bucket value agree (keys canonicalised `transferIn ↦ transfer_in`, …). -/
theorem categorize_eq (N : NumLike) (lower : String → String) (amount : N.α)
    (tags : Option (List String)) :
    ClassJs.categorizeAmount N lower amount tags = ClassPy.categorize_amount N lower amount tags := rfl

theorem is_income_eq (N : NumLike) (lower : String → String) (tags : Option (List String)) :
    ClassJs.isIncome N lower tags = ClassPy.is_income N lower tags := rfl

theorem is_transfer_eq (N : NumLike) (lower : String → String) (tags : Option (List String)) :
    ClassJs.isTransfer N lower tags = ClassPy.is_transfer N lower tags := rfl

theorem is_investment_eq (N : NumLike) (lower : String → String) (tags : Option (List String)) :
    ClassJs.isInvestment N lower tags = ClassPy.is_investment N lower tags := rfl

/-- the excluded-from-spending decision agrees (JS: loop with early return; Python: set
intersection). -/
theorem excluded_eq (N : NumLike) (lower : String → String) (tags : Option (List String)) :
    ClassJs.isExcludedFromSpending N lower tags = ClassPy.is_excluded_from_spending N lower tags := by
  rw [ClassJs.isExcludedFromSpending, ClassPy.is_excluded_from_spending, forFirst_contains_eq_any,
    setNonempty_setInter, any_contains_swap]
  rfl

/-- the cash-flow formula agrees. -/
theorem cashflow_eq (N : NumLike) (lower : String → String) (income spending credits : N.α) :
    ClassJs.calculateCashFlow N lower income spending credits =
      ClassPy.calculate_cash_flow N lower income spending credits := rfl

/-- pointwise agreement on the tags of the list is enough for `specialAgree`. -/
theorem specialAgree_of_pointwise (lowerJs lowerPy : String → String) (tags : Option (List String))
    (h : ∀ t ∈ orEmpty tags, lowerJs t = lowerPy t) : specialAgree lowerJs lowerPy tags = true := by
  have : (orEmpty tags).map lowerJs = (orEmpty tags).map lowerPy := List.map_congr_left h
  simp [specialAgree, this]

/-- the hypothesis cannot be dropped: with a Python side that folds the long s (what
`str.casefold` does) and a JavaScript side that does not, `['tranſfer']` is a transfer for one
program and ordinary spending for the other. -/
example :
    let lowerJs : String → String := id
    let lowerPy : String → String := fun s => if s = "tranſfer" then "transfer" else s
    specialAgree lowerJs lowerPy (some ["tranſfer"]) = false ∧
    ClassJs.isTransfer intNum lowerJs (some ["tranſfer"]) ≠
      ClassPy.is_transfer intNum lowerPy (some ["tranſfer"]) := by
  decide +kernel

/-- …and it is satisfiable by functions that differ (Unicode-version skew on a non-special tag). -/
example :
    let lowerJs : String → String := fun s => if s = "Ᲊ" then "ᲊ" else s
    let lowerPy : String → String := id
    lowerJs "Ᲊ" ≠ lowerPy "Ᲊ" ∧
    specialAgree lowerJs lowerPy (some ["Ᲊ", "income"]) = true := by
  decide +kernel

theorem is_income_eq_of_specialAgree (N : NumLike) (lowerJs lowerPy : String → String)
    (tags : Option (List String)) (h : specialAgree lowerJs lowerPy tags = true) :
    ClassJs.isIncome N lowerJs tags = ClassPy.is_income N lowerPy tags :=
  (is_income_eq N lowerJs tags).trans ((specialAgree_iff N).mp h).1

theorem is_transfer_eq_of_specialAgree (N : NumLike) (lowerJs lowerPy : String → String)
    (tags : Option (List String)) (h : specialAgree lowerJs lowerPy tags = true) :
    ClassJs.isTransfer N lowerJs tags = ClassPy.is_transfer N lowerPy tags :=
  (is_transfer_eq N lowerJs tags).trans ((specialAgree_iff N).mp h).2.1

theorem is_investment_eq_of_specialAgree (N : NumLike) (lowerJs lowerPy : String → String)
    (tags : Option (List String)) (h : specialAgree lowerJs lowerPy tags = true) :
    ClassJs.isInvestment N lowerJs tags = ClassPy.is_investment N lowerPy tags :=
  (is_investment_eq N lowerJs tags).trans ((specialAgree_iff N).mp h).2.2

/-- bucket and bucket value agree whenever the two lower-casing functions agree about the
special words on this tag list. -/
theorem categorize_eq_of_specialAgree (N : NumLike) (lowerJs lowerPy : String → String)
    (amount : N.α) (tags : Option (List String)) (h : specialAgree lowerJs lowerPy tags = true) :
    ClassJs.categorizeAmount N lowerJs amount tags = ClassPy.categorize_amount N lowerPy amount tags :=
  have ⟨hi, ht, hv⟩ := (specialAgree_iff N).mp h
  (categorize_eq N lowerJs amount tags).trans (ClassPy.categorize_amount_congr N amount hi ht hv)

/-- the excluded-from-spending decision agrees under the same hypothesis. -/
theorem excluded_eq_of_specialAgree (N : NumLike) (lowerJs lowerPy : String → String)
    (tags : Option (List String)) (h : specialAgree lowerJs lowerPy tags = true) :
    ClassJs.isExcludedFromSpending N lowerJs tags = ClassPy.is_excluded_from_spending N lowerPy tags := by
  have ⟨hi, ht, hv⟩ := (specialAgree_iff N).mp h
  rw [excluded_eq, ClassPy.is_excluded_eq, ClassPy.is_excluded_eq, hi, ht, hv]

end TallyVerif.Props.C13
