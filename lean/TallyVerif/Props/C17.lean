/-
C17 — rule files are read by structure alone; malformed ones are rejected, not trimmed.

Models (Model/RulesFile.lean, tied to the code by correspondence on every run):
  `Impl.parseRulesFile validExpr lines`          = MerchantEngine.parse + _add_rule   (merchants.rules)
  `Impl.parseViewsFile validExpr wordNA lines`   = section_engine.parse_sections       (views.rules)
`lines` = `content.split('\n')`.  Every theorem holds for EVERY `validExpr` (what the expression parser
accepts) and every `wordNA` (which non-ASCII characters `\w` matches): no property of them is assumed.
`eraseLine` forgets the line number of an error (kept: the error kind); a successful result carries no
line numbers, so `eraseLine x = eraseLine y` says: same rules on success, same kind of error otherwise.
-/
import TallyVerif.Lemmas.RulesFile

namespace TallyVerif.Props.C17
open TallyVerif.RulesFile

/-! ## blank lines and comments -/

/-- *blank lines, comment lines … never change the result* (merchants file): two files that agree once
blank and `#` lines are deleted — any number of them, anywhere — give the same rules, or fail with the same
kind of error (the reported line number moves with the inserted lines). -/
theorem insert_comment_blank_neutral (ve : Str → Bool) (lines lines' : List Str)
    (h : lines.filter nonSkipLine = lines'.filter nonSkipLine) :
    eraseLine (Impl.parseRulesFile ve lines) = eraseLine (Impl.parseRulesFile ve lines') := by
  rw [filter_skip_neutral ve lines, filter_skip_neutral ve lines', h]

/-- success case of the above, for ONE comment / blank line `c` inserted at any position `i` -/
theorem insert_comment_blank_neutral_ok (ve : Str → Bool) (lines : List Str) (i : Nat) (c : Str)
    (hc : isSkip (strip c) = true) (r : RulesFileResult) :
    Impl.parseRulesFile ve (lines.take i ++ c :: lines.drop i) = .ok r ↔ Impl.parseRulesFile ve lines = .ok r := by
  have hf : (lines.take i ++ c :: lines.drop i).filter nonSkipLine = lines.filter nonSkipLine := by
    rw [List.filter_append, List.filter_cons_of_neg (by simp [nonSkipLine, hc]), ← List.filter_append,
      List.take_append_drop]
  rw [← eraseLine_eq_ok, insert_comment_blank_neutral ve _ _ hf, eraseLine_eq_ok]

/-- the same for a views file (`COMMENT` / `BLANK` are tested on the raw line) -/
theorem insert_comment_blank_neutral_views (ve : Str → Bool) (w : Char → Bool) (lines lines' : List Str)
    (h : lines.filter nonSkipRaw = lines'.filter nonSkipRaw) :
    eraseLine (Impl.parseViewsFile ve w lines) = eraseLine (Impl.parseViewsFile ve w lines') := by
  rw [filter_skip_neutral_views ve w lines, filter_skip_neutral_views ve w lines', h]

/-! ## white space at the ends of lines: trailing blanks, CRLF, indentation -/

/-- merchants file: the parser sees a line only through `strip`; any edit that keeps every stripped line
keeps the outcome, line numbers included -/
theorem strip_eq_neutral (ve : Str → Bool) (lines lines' : List Str)
    (h : lines.map strip = lines'.map strip) :
    Impl.parseRulesFile ve lines = Impl.parseRulesFile ve lines' := by
  rw [parseRulesFile_eq, parseRulesFile_eq, loopE_congr (step ve) strip (fun st n l l' h => by simp only [step, h]) 1 {} h]

private theorem map_neutral (ve : Str → Bool) (lines : List Str) (f : Str → Str) (hf : ∀ l, strip (f l) = strip l) :
    Impl.parseRulesFile ve (lines.map f) = Impl.parseRulesFile ve lines :=
  strip_eq_neutral ve _ _ (by rw [List.map_map]; exact List.map_congr_left fun l _ => hf l)

/-- *trailing blanks never change the result* (merchants): every line may get its own white-space suffix -/
theorem trailing_ws_neutral (ve : Str → Bool) (lines : List Str) (suffix : Str → Str)
    (hs : ∀ l, (suffix l).all isSpace = true) :
    Impl.parseRulesFile ve (lines.map fun l => l ++ suffix l) = Impl.parseRulesFile ve lines :=
  map_neutral ve lines _ fun l => strip_append_right l _ (hs l)

/-- *line-ending style never changes the result* (merchants): CRLF = every line ends in '\r' -/
theorem crlf_neutral (ve : Str → Bool) (lines : List Str) :
    Impl.parseRulesFile ve (lines.map fun l => l ++ ['\r']) = Impl.parseRulesFile ve lines :=
  trailing_ws_neutral ve lines (fun _ => ['\r']) (fun _ => by decide)

/-- *indentation of property lines never changes the result* and `indented_header_ok` (merchants): ANY
line — property line, header, top-level assignment — may be indented by any white space -/
theorem indent_property_neutral (ve : Str → Bool) (lines : List Str) (indent : Str → Str)
    (hs : ∀ l, (indent l).all isSpace = true) :
    Impl.parseRulesFile ve (lines.map fun l => indent l ++ l) = Impl.parseRulesFile ve lines :=
  map_neutral ve lines _ fun l => strip_append_left _ l (hs l)

/-- merchants only: an indented `[Header]` is the same header (special case of the previous theorem, stated
for one line) -/
theorem indented_header_ok (ve : Str → Bool) (pre post : List Str) (hdr ws : Str) (hw : ws.all isSpace = true) :
    Impl.parseRulesFile ve (pre ++ (ws ++ hdr) :: post) = Impl.parseRulesFile ve (pre ++ hdr :: post) := by
  apply strip_eq_neutral
  simp [strip_append_left ws hdr hw]

private theorem map_neutral_views (ve : Str → Bool) (w : Char → Bool) (lines : List Str) (f : Str → Str)
    (hf : ∀ l, vkey (f l) = vkey l) : Impl.parseViewsFile ve w (lines.map f) = Impl.parseViewsFile ve w lines :=
  vkey_eq_neutral ve w _ _ (by rw [List.map_map]; exact List.map_congr_left fun l _ => hf l)

/-- views file, trailing blanks / CRLF: every line may get its own white-space suffix (headers too:
`^\[([^\]]+)\]\s*$`) -/
theorem trailing_ws_neutral_views (ve : Str → Bool) (w : Char → Bool) (lines : List Str) (suffix : Str → Str)
    (hs : ∀ l, (suffix l).all isSpace = true) :
    Impl.parseViewsFile ve w (lines.map fun l => l ++ suffix l) = Impl.parseViewsFile ve w lines :=
  map_neutral_views ve w lines _ fun l => vkey_append_right l _ (hs l)

theorem crlf_neutral_views (ve : Str → Bool) (w : Char → Bool) (lines : List Str) :
    Impl.parseViewsFile ve w (lines.map fun l => l ++ ['\r']) = Impl.parseViewsFile ve w lines :=
  trailing_ws_neutral_views ve w lines (fun _ => ['\r']) (fun _ => by decide)

/-- views file, indentation: every line that is NOT a section header may be indented (an indented header is
not a header for `parse_sections`: the regex is anchored at column 0 — hence "merchants only" above) -/
theorem indent_property_neutral_views (ve : Str → Bool) (w : Char → Bool) (lines : List Str) (indent : Str → Str)
    (hs : ∀ l, (indent l).all isSpace = true)
    (hh : ∀ l, matchSectionHeader l ≠ none → indent l = []) :
    Impl.parseViewsFile ve w (lines.map fun l => indent l ++ l) = Impl.parseViewsFile ve w lines := by
  refine map_neutral_views ve w lines _ fun l => ?_
  by_cases hl : matchSectionHeader l = none
  · exact vkey_indent _ l (hs l) hl
  · simp [hh l hl]

/-! ## malformed files are rejected, with the line number

Shape of the statements: `pre` are the lines before the offending line `l`; they parse (`run … pre = .ok st`)
and leave the parser inside a rule (`st.cur = some d`; `inside_rule_of_header` below: that is the case as
soon as `pre` contains a header).  Then the whole file `pre ++ l :: post` — whatever follows — is rejected
with the line number of `l`, i.e. `pre.length + 1`. -/

private theorem parse_error_at (ve : Str → Bool) (pre post : List Str) (l : Str) (st : MState) {e : Nat × MErr}
    (hpre : run ve 1 {} pre = .ok st) (hstep : stepS ve st (pre.length + 1) (strip l) = .error e) :
    Impl.parseRulesFile ve (pre ++ l :: post) = .error e := by
  unfold Impl.parseRulesFile
  rw [run_append, hpre]
  simp only [run, step, Nat.add_comm 1, hstep]

/-- `l` is a property line with key `key` (lower-cased, stripped) and value `value` -/
def IsPropLine (l : Str) (key value : Str) : Prop :=
  isSkip (strip l) = false ∧ isHeader (strip l) = false ∧ (strip l).contains ':' = true ∧
  splitProp (strip l) = (key, value)

private theorem propLine_error (ve : Str → Bool) (pre post : List Str) (l key value : Str) (st : MState)
    (d : RuleData) {k : MErr}
    (hpre : run ve 1 {} pre = .ok st) (hcur : st.cur = some d) (hl : IsPropLine l key value)
    (herr : splitProp (strip l) = (key, value) → propLine (strip l) d = .error k) :
    Impl.parseRulesFile ve (pre ++ l :: post) = .error (pre.length + 1, k) := by
  obtain ⟨h1, h2, h3, hs⟩ := hl
  apply parse_error_at ve pre post l st hpre
  simp only [stepS_body h1 h2, hcur, h3, herr hs, if_true]

/-- *an unknown property is rejected with an error naming the line* -/
theorem rejects_unknown_property (ve : Str → Bool) (pre post : List Str) (l key value : Str) (st : MState)
    (d : RuleData) (hpre : run ve 1 {} pre = .ok st) (hcur : st.cur = some d)
    (hl : IsPropLine l key value) (hk : propKey? key = none) :
    Impl.parseRulesFile ve (pre ++ l :: post) = .error (pre.length + 1, .unknownProperty) := by
  refine propLine_error ve pre post l key value st d hpre hcur hl fun hs => ?_
  simp [propLine, hs, hk]

/-- *a malformed let is rejected …*: `let: <value>` where `<value>` is not `identifier = expression` -/
theorem rejects_bad_let (ve : Str → Bool) (pre post : List Str) (l value : Str) (st : MState)
    (d : RuleData) (hpre : run ve 1 {} pre = .ok st) (hcur : st.cur = some d)
    (hl : IsPropLine l ['l', 'e', 't'] value) (hv : matchLetAssign value = none) :
    Impl.parseRulesFile ve (pre ++ l :: post) = .error (pre.length + 1, .badLet) := by
  refine propLine_error ve pre post l _ value st d hpre hcur hl fun hs => ?_
  simp [propLine, hs, propKey?, applyProp, hv]

/-- *a malformed field is rejected …* -/
theorem rejects_bad_field (ve : Str → Bool) (pre post : List Str) (l value : Str) (st : MState)
    (d : RuleData) (hpre : run ve 1 {} pre = .ok st) (hcur : st.cur = some d)
    (hl : IsPropLine l ['f', 'i', 'e', 'l', 'd'] value) (hv : matchLetAssign value = none) :
    Impl.parseRulesFile ve (pre ++ l :: post) = .error (pre.length + 1, .badField) := by
  refine propLine_error ve pre post l _ value st d hpre hcur hl fun hs => ?_
  simp [propLine, hs, propKey?, applyProp, hv]

/-- *a malformed priority is rejected …*: the value is not an integer literal -/
theorem rejects_bad_priority (ve : Str → Bool) (pre post : List Str) (l value : Str) (st : MState)
    (d : RuleData) (hpre : run ve 1 {} pre = .ok st) (hcur : st.cur = some d)
    (hl : IsPropLine l ['p', 'r', 'i', 'o', 'r', 'i', 't', 'y'] value) (hv : pyInt value = none) :
    Impl.parseRulesFile ve (pre ++ l :: post) = .error (pre.length + 1, .badPriority) := by
  refine propLine_error ve pre post l _ value st d hpre hcur hl fun hs => ?_
  simp [propLine, hs, propKey?, applyProp, hv]

/-- not in the property's list but the same mechanism: inside a rule a line without ':' is rejected, never skipped -/
theorem rejects_unexpected_content (ve : Str → Bool) (pre post : List Str) (l : Str) (st : MState)
    (d : RuleData) (hpre : run ve 1 {} pre = .ok st) (hcur : st.cur = some d)
    (h1 : isSkip (strip l) = false) (h2 : isHeader (strip l) = false) (h3 : (strip l).contains ':' = false) :
    Impl.parseRulesFile ve (pre ++ l :: post) = .error (pre.length + 1, .unexpectedContent) := by
  apply parse_error_at ve pre post l st hpre
  simp only [stepS_body h1 h2, hcur, h3, Bool.false_eq_true, if_false]

/-- the rule under construction is closed (validated) when the next header or the end of the file is reached -/
def ClosesRule (post : List Str) : Prop :=
  (∀ l ∈ post, isSkip (strip l) = true) ∨
  ∃ skips h rest, post = skips ++ h :: rest ∧ (∀ l ∈ skips, isSkip (strip l) = true) ∧
    isSkip (strip h) = false ∧ isHeader (strip h) = true

private theorem closes_error (ve : Str → Bool) (pre post : List Str) (st : MState) (d : RuleData) {k : MErr}
    (hpre : run ve 1 {} pre = .ok st) (hcur : st.cur = some d) (hk : addRule ve d = .error k)
    (hpost : ClosesRule post) :
    Impl.parseRulesFile ve (pre ++ post) = .error (st.startLine, k) := by
  have hclose : closeCur ve st = .error (st.startLine, k) := by simp [closeCur, hcur, hk]
  unfold Impl.parseRulesFile
  rw [run_append, hpre]
  rcases hpost with hall | ⟨skips, h, rest, rfl, hs, h1, h2⟩
  · simp only [run_skip ve st post hall, finish, hclose]
  · simp only [run_append, run_skip ve st skips hs, run, step, stepS_header h1 h2, hclose,
      Except.bind]

/-- *a section lacking its match is rejected*: when the rule being read (`d`, opened at line `st.startLine`)
has seen no `match:` line and the next thing in the file is a header or the end, the file is rejected with the
line number of that rule's header.  (That `st.startLine` is the header's line is shown on a concrete prefix among the
examples below and asked by the check's oracle; there is no general theorem.) -/
theorem rejects_missing_match (ve : Str → Bool) (pre post : List Str) (st : MState) (d : RuleData)
    (hpre : run ve 1 {} pre = .ok st) (hcur : st.cur = some d) (hm : d.matchExpr = none)
    (hpost : ClosesRule post) :
    Impl.parseRulesFile ve (pre ++ post) = .error (st.startLine, .missingMatch) :=
  closes_error ve pre post st d hpre hcur (by simp [addRule, hm]) hpost

/-- *an invalid expression is rejected* (merchants): a rule whose match expression the expression parser refuses
is rejected when it is closed, with the line number of the rule's header (that is the number `_add_rule`
receives).  Same for let / field expressions (`.invalidLetExpr`, `.invalidFieldExpr`, checked first). -/
theorem rejects_invalid_expr (ve : Str → Bool) (pre post : List Str) (st : MState) (d : RuleData) (m : Str)
    (hpre : run ve 1 {} pre = .ok st) (hcur : st.cur = some d) (hm : d.matchExpr = some m)
    (hbad : ve m = false ∨ allValid ve d.lets = false ∨ allValid ve d.fields = false)
    (hpost : ClosesRule post) :
    ∃ k, Impl.parseRulesFile ve (pre ++ post) = .error (st.startLine, k) := by
  cases hk : addRule ve d with
  | error k => exact ⟨k, closes_error ve pre post st d hpre hcur hk hpost⟩
  | ok r =>
    obtain ⟨m', hm', _, h1, h2, h3, _⟩ := addRule_ok ve d r hk
    rw [hm] at hm'; cases hm'
    simp [h1, h2, h3] at hbad

/-- "inside a rule" is a syntactic condition: it holds as soon as the accepted prefix contains a header line -/
theorem inside_rule_of_header (ve : Str → Bool) (pre : List Str) (st : MState) (hpre : run ve 1 {} pre = .ok st)
    (hh : ∃ l ∈ pre, isHeaderLine l = true) : ∃ d, st.cur = some d := by
  have := (run_names ve 1 {} st pre hpre).2
  rw [List.any_eq_true.mpr hh] at this
  exact Option.isSome_iff_exists.mp this

/-! ### views file -/

private theorem vparse_error_at (ve : Str → Bool) (w : Char → Bool) (pre post : List Str) (l : Str) (st : VState)
    {e : Nat × VErr} (hpre : vrun ve w 1 {} pre = .ok st) (hstep : vstep ve w st (pre.length + 1) l = .error e) :
    Impl.parseViewsFile ve w (pre ++ l :: post) = .error e := by
  unfold Impl.parseViewsFile
  rw [vrun_append, hpre]
  simp only [vrun, Nat.add_comm 1, hstep]

/-- *an unknown property is rejected* (views; also every orphan line): a line that is not blank, comment, header,
`filter:…`, `description:…` or `name = expr` is rejected with its line number — anywhere in the file -/
theorem rejects_unknown_property_views (ve : Str → Bool) (w : Char → Bool) (pre post : List Str) (l : Str)
    (st : VState) (hpre : vrun ve w 1 {} pre = .ok st)
    (h1 : isSkipRaw l = false) (h2 : matchSectionHeader l = none)
    (h3 : matchKeyDecl ['f', 'i', 'l', 't', 'e', 'r', ':'] (strip l) = none)
    (h4 : matchKeyDecl ['d', 'e', 's', 'c', 'r', 'i', 'p', 't', 'i', 'o', 'n', ':'] (strip l) = none)
    (h5 : matchVarDecl w (strip l) = none) :
    Impl.parseViewsFile ve w (pre ++ l :: post) = .error (pre.length + 1, .unexpectedContent) := by
  apply vparse_error_at ve w pre post l st hpre
  simp only [vstep_body h1 h2, vbodyS, h3, h4, h5]

/-- *an invalid expression is rejected with an error naming the line* (views): a `filter:` whose expression the
parser refuses is rejected at the line of the filter itself -/
theorem rejects_invalid_expr_views (ve : Str → Bool) (w : Char → Bool) (pre post : List Str) (l g : Str)
    (st : VState) (sec : Section) (hpre : vrun ve w 1 {} pre = .ok st) (hcur : st.cur = some sec)
    (h1 : isSkipRaw l = false) (h2 : matchSectionHeader l = none)
    (h3 : matchKeyDecl ['f', 'i', 'l', 't', 'e', 'r', ':'] (strip l) = some g) (hbad : ve (strip g) = false) :
    Impl.parseViewsFile ve w (pre ++ l :: post) = .error (pre.length + 1, .invalidFilterExpr) := by
  apply vparse_error_at ve w pre post l st hpre
  simp only [vstep_body h1 h2, vbodyS, h3, hcur, hbad, Bool.false_eq_true, if_false]

/-- … and a variable line `name = expr` with a refused expression, inside or outside a section -/
theorem rejects_invalid_var_expr_views (ve : Str → Bool) (w : Char → Bool) (pre post : List Str) (l nm e : Str)
    (st : VState) (hpre : vrun ve w 1 {} pre = .ok st)
    (h1 : isSkipRaw l = false) (h2 : matchSectionHeader l = none)
    (h3 : matchKeyDecl ['f', 'i', 'l', 't', 'e', 'r', ':'] (strip l) = none)
    (h4 : matchKeyDecl ['d', 'e', 's', 'c', 'r', 'i', 'p', 't', 'i', 'o', 'n', ':'] (strip l) = none)
    (h5 : matchVarDecl w (strip l) = some (nm, e)) (hbad : ve (strip e) = false) :
    Impl.parseViewsFile ve w (pre ++ l :: post) = .error (pre.length + 1, .invalidVarExpr) := by
  apply vparse_error_at ve w pre post l st hpre
  simp only [vstep_body h1 h2, vbodyS, h3, h4, h5, hbad, Bool.false_eq_true, if_false]

/-- the section under construction is closed when the next header or the end of the file is reached -/
def ClosesSection (post : List Str) : Prop :=
  (∀ l ∈ post, isSkipRaw l = true) ∨
  ∃ skips h rest name, post = skips ++ h :: rest ∧ (∀ l ∈ skips, isSkipRaw l = true) ∧
    isSkipRaw h = false ∧ matchSectionHeader h = some name

/-- *a section lacking its filter is rejected*: the section being read (opened at line `st.startLine`) has no
filter yet and the next thing is a header or the end of the file ⇒ error at that section's header line -/
theorem rejects_missing_filter (ve : Str → Bool) (w : Char → Bool) (pre post : List Str) (st : VState) (sec : Section)
    (hpre : vrun ve w 1 {} pre = .ok st) (hcur : st.cur = some sec) (hf : sec.filterExpr = [])
    (hpost : ClosesSection post) :
    Impl.parseViewsFile ve w (pre ++ post) = .error (st.startLine, .missingFilter) := by
  have hclose : closeSection st = .error (st.startLine, .missingFilter) := by simp [closeSection, hcur, hf]
  unfold Impl.parseViewsFile
  rw [vrun_append, hpre]
  rcases hpost with hall | ⟨skips, h, rest, name, rfl, hs, h1, h2⟩
  · simp only [vrun_skip ve w st post hall, vfinish, hclose]
  · simp only [vrun_append, vrun_skip ve w st skips hs, vrun, vstep_header h1 h2, hclose, Except.bind]

/-! ## every section yields exactly one rule, in file order -/

/-- *every section yields exactly one rule … in file order* (merchants): when the file is accepted, the names of
the rules are exactly the names between the brackets of the header lines, one rule per header, in file order
(in particular as many rules as headers).  That each rule carries exactly the stated properties is covered by the
correspondence + oracle (every rendering parses to the abstract file's content), not by a theorem: `_partial`. -/
theorem sections_to_rules_partial (ve : Str → Bool) (lines : List Str) (r : RulesFileResult)
    (h : Impl.parseRulesFile ve lines = .ok r) : r.rules.map (·.name) = headerNames lines := by
  unfold Impl.parseRulesFile at h
  split at h
  · next st hr => rw [finish_names ve st r h, (run_names ve 1 {} st lines hr).1]; rfl  -- `namesOf {}` is `[]`
  · cases h

/-- the same for a views file -/
theorem sections_to_views_partial (ve : Str → Bool) (w : Char → Bool) (lines : List Str) (r : ViewsResult)
    (h : Impl.parseViewsFile ve w lines = .ok r) : r.sections.map (·.name) = vheaderNames lines := by
  unfold Impl.parseViewsFile at h
  split at h
  · next st hr => rw [vfinish_names st r h, vrun_names ve w 1 {} st lines hr]; rfl
  · cases h

/-! ## the relative order of a section's distinct properties -/

/-- *the relative order of a section's distinct properties never changes the result* (merchants): inside a rule
(some header precedes), two ADJACENT property lines whose keys are different known properties — `match`,
`category`, `subcategory`, `merchant`, `tags`, `priority`, and also `let` against `field` or against any of the
others — may be swapped: the file is accepted either both ways or neither way, with the same rules.
(`let` lines among themselves and `field` lines among themselves are sequences: `k1 ≠ k2` keeps their order.
When BOTH lines are malformed the error reported differs — the first one wins — hence `okPart`.)
Any permutation of distinct properties is a product of such swaps. -/
theorem permute_distinct_properties_neutral (ve : Str → Bool) (pre post : List Str) (l1 l2 : Str) (k1 k2 : PropKey)
    (hh : ∃ l ∈ pre, isHeaderLine l = true)
    (h1 : propKeyOf l1 = some k1) (h2 : propKeyOf l2 = some k2) (hne : k1 ≠ k2) :
    okPart (Impl.parseRulesFile ve (pre ++ l1 :: l2 :: post)) =
    okPart (Impl.parseRulesFile ve (pre ++ l2 :: l1 :: post)) := by
  -- the file as `(run …).bind (finish ve)`, the form of `run_prop_cons`
  simp only [parseRulesFile_eq, ← run_eq_loopE, run_append]
  cases hpre : run ve 1 {} pre with
  | error e => rfl
  | ok st =>
    obtain ⟨d, hcur⟩ := inside_rule_of_header ve pre st hpre hh
    obtain ⟨_, sl, rs, vs, ts⟩ := st
    cases hcur
    -- either order: the first line's record, then the second's, then the rest of the file from two lines on
    simp only [run_prop_cons h1, run_prop_cons h2, ← Option.bind_assoc,
      ← okPart_bind, applyProp_comm k1 k2 _ _ d hne]

/-! ## key letter case (merchants only) -/

/-- *for merchants files also key letter case … never changes the result*: inside a rule (some header precedes), a
property line `key: value` (after stripping; `key` is what precedes the first ':') may have its key rewritten to
any `key'` with the same lower-cased text — `Match:`, `CATEGORY :`, `tAgs:` … — and the outcome of the whole file,
line numbers included, is the same.  `hs`, `hs'`: neither line is a comment or a header (automatic when the key
starts with a letter).  (A `key: value` line BEFORE the first header is ignored whatever its case — reading note,
not part of this theorem.) -/
theorem key_case_neutral (ve : Str → Bool) (pre post : List Str) (l l' key key' rest : Str)
    (hh : ∃ h ∈ pre, isHeaderLine h = true)
    (hl : strip l = key ++ ':' :: rest) (hl' : strip l' = key' ++ ':' :: rest)
    (hc : ':' ∉ key) (hc' : ':' ∉ key')
    (hs : isSkip (strip l) = false ∧ isHeader (strip l) = false)
    (hs' : isSkip (strip l') = false ∧ isHeader (strip l') = false)
    (hlow : lower (strip key) = lower (strip key')) :
    Impl.parseRulesFile ve (pre ++ l :: post) = Impl.parseRulesFile ve (pre ++ l' :: post) := by
  unfold Impl.parseRulesFile
  rw [run_append, run_append]
  cases hpre : run ve 1 {} pre with
  | error e => rfl
  | ok st =>
    obtain ⟨d, hcur⟩ := inside_rule_of_header ve pre st hpre hh
    rw [hl] at hs; rw [hl'] at hs'
    simp only [run, step, hl, hl', stepS_keyValue ve st d _ _ rest hcur, hc, hc', hs, hs', hlow, not_false_eq_true]

/-! ## `tags:` — exactly the stated tags, whatever is nested inside their parentheses -/

/-- scan of ONE tag starting at parenthesis depth `d`: `none` if a comma is met at depth 0, else the depth at its end -/
def tagScan : Str → Int → Option Int
  | [], d => some d
  | c :: cs, d =>
    if c == '(' then tagScan cs (d + 1)
    else if c == ')' then tagScan cs (d - 1)
    else if c == ',' && d == 0 then none
    else tagScan cs d

/-- a CLOSED tag: its parentheses balance and none of its commas is outside them.  Nothing is asked of what is inside the
parentheses: further calls to any depth, commas at any depth, string literals holding commas / parentheses / braces. -/
def closedTag (t : Str) : Bool := tagScan t 0 == some 0

/-- `", ".join(tags)` without the blank (a blank, if wanted, is part of the next tag and stripped from it) -/
def joinTags : List Str → Str
  | [] => []
  | [t] => t
  | t :: u :: r => t ++ ',' :: joinTags (u :: r)

/-- what `tags.add(tag.strip())` (skipped when empty) does with the stated tag `t` -/
def addTag (acc : List Str) (t : Str) : List Str := if (strip t).isEmpty then acc else setAdd (strip t) acc

private theorem tagsLoop_scan (t rest : Str) (d d' : Int) (cur : Str) (tags : List Str) (h : tagScan t d = some d') :
    tagsLoop (t ++ rest) d cur tags = tagsLoop rest d' (t.reverse ++ cur) tags := by
  -- `tagScan` and `tagsLoop` branch on the same tests
  fun_induction tagScan t d generalizing cur with
  | case1 => cases h; rfl
  | case4 => cases h  -- a comma at depth 0: `tagScan` gave `none`
  | _ => simp only [List.cons_append, tagsLoop, List.reverse_cons, List.append_assoc, List.nil_append, Bool.false_eq_true,
      if_false, if_true, *]

private theorem pushTag_reverse (t : Str) (tags : List Str) : pushTag t.reverse tags = addTag tags t := by
  simp [pushTag, addTag]

private theorem tagsLoop_join (ts : List Str) (hall : ∀ t ∈ ts, closedTag t = true) (tags : List Str) :
    tagsLoop (joinTags ts) 0 [] tags = ts.foldl addTag tags := by
  fun_induction joinTags ts generalizing tags with
  | case1 => rfl
  | case2 t => simpa [tagsLoop, pushTag_reverse] using tagsLoop_scan t [] 0 0 [] tags (by simpa [closedTag] using hall)
  | case3 t u r ih =>
    -- the comma at depth 0 closes the tag read so far
    rw [List.foldl, ← pushTag_reverse, ← ih (fun x hx => hall x (List.mem_cons_of_mem _ hx))]
    simpa [tagsLoop] using tagsLoop_scan t (',' :: joinTags (u :: r)) 0 0 [] tags (by simpa [closedTag] using hall t List.mem_cons_self)

/-- *every section yields … exactly the stated properties*, clause for `tags:` — for ANY list of closed tags (parentheses balance,
no comma outside them; arbitrary nesting, commas and string literals inside), the value `t₁,t₂,…,tₙ` is read as exactly those tags:
each trimmed, empty ones skipped, duplicates once, in order of first appearance.  No tag is ever cut at a comma inside its
parentheses, however deep the comma sits and whatever follows it. -/
theorem tags_exactly_the_stated (ts : List Str) (hall : ∀ t ∈ ts, closedTag t = true) :
    splitTags (joinTags ts) = ts.foldl addTag [] :=
  tagsLoop_join ts hall []

private theorem mem_addTag (acc : List Str) (t x : Str) : x ∈ addTag acc t ↔ x ∈ acc ∨ (x = strip t ∧ x ≠ []) := by
  unfold addTag
  cases strip t with
  | nil => simp
  | cons c r => rw [and_iff_left_of_imp fun h : x = c :: r => h ▸ List.cons_ne_nil c r]; exact mem_setAdd x _ acc

private theorem mem_foldl_addTag (ts : List Str) (acc : List Str) (x : Str) :
    x ∈ ts.foldl addTag acc ↔ x ∈ acc ∨ ∃ t ∈ ts, x = strip t ∧ x ≠ [] := by
  induction ts generalizing acc with
  | nil => simp
  | cons t r ih => simp only [List.foldl, ih, mem_addTag, List.mem_cons, exists_eq_or_imp, or_assoc]

/-- the same as a statement about the SET of tags: `x` is a tag of the rule iff it is the trimmed, non-empty text of a stated tag -/
theorem tag_mem_iff_stated (ts : List Str) (hall : ∀ t ∈ ts, closedTag t = true) (x : Str) :
    x ∈ splitTags (joinTags ts) ↔ ∃ t ∈ ts, x = strip t ∧ x ≠ [] := by
  rw [tags_exactly_the_stated ts hall, mem_foldl_addTag]; simp

/-! ## non-vacuity: the hypotheses are satisfiable, the conclusions are about real files (kernel-checked) -/

instance exceptDecEq {ε α : Type} [DecidableEq ε] [DecidableEq α] : DecidableEq (Except ε α) := fun a b =>
  match a, b with
  | .ok x, .ok y => if h : x = y then isTrue (by rw [h]) else isFalse (by intro e; cases e; exact h rfl)
  | .error x, .error y => if h : x = y then isTrue (by rw [h]) else isFalse (by intro e; cases e; exact h rfl)
  | .ok _, .error _ => isFalse (by intro e; cases e)
  | .error _, .ok _ => isFalse (by intro e; cases e)
instance (l k v : Str) : Decidable (IsPropLine l k v) := by unfold IsPropLine; infer_instance
def s (x : String) : Str := x.toList
def veAll : Str → Bool := fun _ => true
/-- refuses exactly the text `contains("NETFLIX"` (the D17 witness) -/
def veBad : Str → Bool := fun e => e != "contains(\"NETFLIX\"".toList
def noWord : Char → Bool := fun _ => false

/-- Kernel evaluation of a statement with string literals.  A literal is `String.ofList` of its characters: rewriting
`toList` of it away first spares the kernel decoding the text. -/
macro "eval_lits" : tactic => `(tactic| (simp only [s]; (repeat rw [String.toList_ofList]); decide +kernel))

def fileA : List Str := [s "is_large = amount > 500", s "[Netflix]", s "match: contains(\"NETFLIX\")",
  s "category: Subscriptions", s "tags: a, f(b, c) ,a", s "priority: -5", s "let: X = amount * 2", s "", s "[Big]",
  s "match: is_large", s "tags: large"]

/-- a non-trivial accepted file: two rules, names = headers, tags split outside parentheses and de-duplicated,
let name lower-cased, merchant defaults to the name, default priority 50 -/
example : Impl.parseRulesFile veAll fileA = .ok
    { rules := [{ name := s "Netflix", merchant := s "Netflix", category := s "Subscriptions", subcategory := [],
                  tags := [s "a", s "f(b, c)"], priority := -5, matchExpr := s "contains(\"NETFLIX\")",
                  lets := [(s "x", s "amount * 2")], fields := [] },
                { name := s "Big", merchant := s "Big", category := [], subcategory := [], tags := [s "large"],
                  priority := 50, matchExpr := s "is_large", lets := [], fields := [] }],
      variables := [(s "is_large", s "amount > 500")], transforms := [] } := by unfold fileA; eval_lits

example : headerNames fileA = [s "Netflix", s "Big"] := by unfold fileA; eval_lits
/-- layout noise on the same file: CRLF, indentation (header too), key case, comments, property order -/
example : Impl.parseRulesFile veAll [s "# c\r", s "is_large = amount > 500\r", s "  [Netflix]  \r", s "\tCATEGORY : Subscriptions\r",
    s "Match: contains(\"NETFLIX\")\r", s "   # x: y\r", s "tags: a, f(b, c) ,a\r", s "let: X = amount * 2\r", s "priority: -5\r",
    s "[Big]\r", s "tags: large\r", s "match: is_large\r", s ""] = Impl.parseRulesFile veAll fileA := by
  unfold fileA; eval_lits
/-- rejections, each with its line number -/
example : Impl.parseRulesFile veBad [s "[Netflix]", s "match: contains(\"NETFLIX\"", s "category: Subscriptions"]
    = .error (1, .invalidMatchExpr) := by unfold veBad; eval_lits
example : Impl.parseRulesFile veAll [s "# c", s "[A]", s "category: c", s "", s "[B]", s "match: x", s "category: c"]
    = .error (2, .missingMatch) := by eval_lits
example : Impl.parseRulesFile veAll [s "[A]", s "match: x", s "categry: c"] = .error (3, .unknownProperty) := by eval_lits
example : Impl.parseRulesFile veAll [s "[A]", s "let: 3x = 1"] = .error (2, .badLet) := by eval_lits
example : Impl.parseRulesFile veAll [s "[A]", s "", s "field: x"] = .error (3, .badField) := by eval_lits
example : Impl.parseRulesFile veAll [s "[A]", s "match: x", s "priority: high"] = .error (3, .badPriority) := by eval_lits
/-- hypotheses of the rejection theorems on a concrete prefix: inside a rule after `[A]` -/
example : (match run veAll 1 {} [s "x = 1", s "[A]", s "match: y"] with
            | .ok st => some (st.cur.isSome, st.startLine) | .error _ => none) = some (true, 2) ∧
    IsPropLine (s "  Priority : high ") (s "priority") (s "high") ∧ pyInt (s "high") = none ∧
    propKeyOf (s "tags: a") = some .tags ∧ propKeyOf (s " MATCH: z") = some .match ∧
    isHeaderLine (s "  [A] ") = true ∧ ClosesRule [s "", s "[B]"] := by
  refine ⟨by eval_lits, by eval_lits, by eval_lits, by eval_lits, by eval_lits,
    by eval_lits, Or.inr ⟨[s ""], s "[B]", [], rfl, by eval_lits, by eval_lits, by eval_lits⟩⟩
/-- reading note (observation, not a rejection): a `key: value` line before the first header is ignored -/
example : Impl.parseRulesFile veAll [s "category: Food", s "[A]", s "match: x", s "category: c"] =
    Impl.parseRulesFile veAll [s "[A]", s "match: x", s "category: c"] := by eval_lits

def viewsA : List Str := [s "is_frequent = months >= 6", s "[Every Month]", s "description: d", s "filter: is_frequent and cv < 0.3",
  s "avg = total / 12", s "", s "[ Rare ]  ", s "filter: months < 3"]
example : Impl.parseViewsFile veAll noWord viewsA = .ok
    { globals := [(s "is_frequent", s "months >= 6")],
      sections := [{ name := s "Every Month", filterExpr := s "is_frequent and cv < 0.3", description := some (s "d"),
                     variables := [(s "avg", s "total / 12")] },
                   { name := s "Rare", filterExpr := s "months < 3", description := none, variables := [] }] } := by unfold viewsA; eval_lits
example : vheaderNames viewsA = [s "Every Month", s "Rare"] := by unfold viewsA; eval_lits
example : Impl.parseViewsFile veAll noWord [s "[A]", s "x = 1", s "", s "[B]", s "filter: y"] = .error (1, .missingFilter) := by eval_lits
example : Impl.parseViewsFile veAll noWord [s "[A]", s "filter: y", s "Filter: z"] = .error (3, .unexpectedContent) := by eval_lits
example : Impl.parseViewsFile veAll noWord [s "[A]", s "  [B]", s "filter: y"] = .error (2, .unexpectedContent) := by eval_lits
example : Impl.parseViewsFile veBad noWord [s "[A]", s "filter: contains(\"NETFLIX\""] = .error (2, .invalidFilterExpr) := by unfold veBad; eval_lits

-- tags: a nested call AFTER an argument comma, a regex group inside a string literal, a comma inside a string literal inside a call
def tagsEx : List Str := [s "{split(field.holder, lowercase(\" \"), 0)}", s " card", s " {extract(field.memo, \"REF (\\d+), (x)\")} ", s "card"]
example : (tagsEx.all closedTag) = true := by unfold tagsEx; eval_lits
example : splitTags (joinTags tagsEx) =
    [s "{split(field.holder, lowercase(\" \"), 0)}", s "card", s "{extract(field.memo, \"REF (\\d+), (x)\")}"] := by unfold tagsEx; eval_lits
-- not closed: a comma outside parentheses (inside quotes only) does separate
example : closedTag (s "{\"a,b\"}") = false ∧ splitTags (s "{\"a,b\"}") = [s "{\"a", s "b\"}"] := by eval_lits

/-! ## an expression is ONE line, whatever delimiters its text holds

Where a `match:` / `let:` / `field:` value ends is decided by the line, never by counting what is inside it: a string
literal may hold an opening parenthesis without its partner (`PAYPAL (`, an escaped regex parenthesis, a smiley), a
closing one alone, brackets, braces, the other kind of quote.  The swap / layout theorems above are stated for EVERY line
text, so they cover such lines; the examples pin the reading on a concrete file, in both property orders. -/

def fileUnbalanced : List Str := [s "[Paypal]", s "match: contains(\"PAYPAL (\")", s "category: Shopping", s "tags: online, paypal",
  s "", s "[Refund]", s "let: r = regex(\"\\\\(REFUND\")", s "match: r and amount < 0", s "category: Income", s "priority: 60",
  s "field: note = \"}])\"", s "", s "[Smiley]", s "match: contains(\":(\") or contains(\"it's\")", s "tags: mood"]

/-- three rules with exactly the stated properties: nothing after an expression line is swallowed by it -/
example : Impl.parseRulesFile veAll fileUnbalanced = .ok
    { rules := [{ name := s "Paypal", merchant := s "Paypal", category := s "Shopping", subcategory := [],
                  tags := [s "online", s "paypal"], priority := 50, matchExpr := s "contains(\"PAYPAL (\")", lets := [], fields := [] },
                { name := s "Refund", merchant := s "Refund", category := s "Income", subcategory := [], tags := [],
                  priority := 60, matchExpr := s "r and amount < 0", lets := [(s "r", s "regex(\"\\\\(REFUND\")")],
                  fields := [(s "note", s "\"}])\"")] },
                { name := s "Smiley", merchant := s "Smiley", category := [], subcategory := [], tags := [s "mood"],
                  priority := 50, matchExpr := s "contains(\":(\") or contains(\"it's\")", lets := [], fields := [] }],
      variables := [], transforms := [] } := by unfold fileUnbalanced; eval_lits

/-- the same file with every expression line moved to the END of its section (the only order a naive continuation
scanner reads correctly) parses to the same rules -/
example : Impl.parseRulesFile veAll [s "[Paypal]", s "category: Shopping", s "tags: online, paypal", s "match: contains(\"PAYPAL (\")",
    s "[Refund]", s "category: Income", s "priority: 60", s "let: r = regex(\"\\\\(REFUND\")", s "match: r and amount < 0",
    s "field: note = \"}])\"", s "[Smiley]", s "tags: mood", s "match: contains(\":(\") or contains(\"it's\")"]
    = Impl.parseRulesFile veAll fileUnbalanced := by unfold fileUnbalanced; eval_lits

end TallyVerif.Props.C17
