import TallyVerif.Gen.FsSteps
import TallyVerif.Lemmas.FsFault
import TallyVerif.Lemmas.FsUpRun
import TallyVerif.Lemmas.FsInit
import TallyVerif.Lemmas.FsUp
import TallyVerif.Lemmas.FsLayout
/-!
# C15 — an interrupted or failing migration never loses rules or strands the budget

`Safe v p fs₀ fs` (Model/Fs.lean, `safeB`):
  (1) every file of `fs₀` is still somewhere in `fs` with its content (settings.yaml may have gained lines);
  and, when the budget classified with the user's rules before (`(effective fs₀).rules.usable`),
  (2) `effective fs ≃ effective fs₀`  ∨  `effective (rerun p fs) ≃ effective fs₀`   (rules *and* statement file),
  (3) ¬ (the rule set in effect is empty ∧ rules exist on disk).
`SafeRun` adds, for a fault inside `tally up --migrate`: the run itself stopped or used rules ≃ the user's.

The interruption clauses of `tally up --migrate` and `tally init` are instances of theorems about ARBITRARY trees
(`up_crash_safe`, `init_crash_safe`: `Lemmas/FsUp.lean`, `Lemmas/FsInit.lean`): no content is lost in any crash state (`InitKeeps`,
C20's invariant, kept at every crash state); in every crash state of the reordered CSV migration the legacy CSV is there as long
as settings.yaml has no key, and a key the run has written names the complete new rules file, so the budget classifies as it did
(`Lemmas/FsMigration.lean`); and what `tally init` does after the migration step, `init_config` and the views append, cannot
change what a budget classifies with (`Lemmas/FsSteady.lean`).  The layout migration is evaluated over its shapes
(`layoutCrash_all`).  The I/O-error clauses rest on the interruption clauses: an `OSError` raised by event `k` that propagates,
or that a handler swallows, leaves a crash state with the in-flight file written out (the one after `k` events, or the end of the
run if event `k` is never reached; `Lemmas/FsFault.lean`); after the handler of `init`'s migration step `init` goes on from there.  Evaluated in addition, over the
shapes: what a faulted `tally up --migrate` itself goes on to classify with (`upRun_all`).

Budgets: `Shape` (5 settings kinds × 3 CSV kinds × merchants.rules? × .bak? × views.rules? × `views_file:`
mentioned? × data/output present?) = 480 shapes, `LShape` = 32 old-layout shapes; every user file holds an
opaque symbol of its own (`Shape.fs id : FS Sym`) — the model is polymorphic in the content type and never
inspects a symbol, so the symbols stand for arbitrary contents.  [Not mechanised, where a clause is evaluated: the
parametricity step from the free assignment `id` to an arbitrary `u : Rel → κ`; the theorems about arbitrary trees above hold for
any contents.]

**On the code as it is (`Variants.impl`) the property is FALSE** — counterexamples `D15a … D15e` below,
each replayed on the real code by harness/props/c15.py.  The `…_safe` theorems are about the repaired
statement order (`Variants.repaired` = notes/fix_D15*.diff); which variant the code currently has is
read off `Gen/FsSteps.lean` (`extracted_order_is_modelled`).

PARTIAL w.r.t. the OS: crashes between Python-level file-system calls, torn in-flight files at
write()-call granularity (a single `write` may be cut anywhere) and single-call `OSError`s are covered
exhaustively; fsync/durability, power-loss reordering and a tear *inside* the second of two `write()` calls
of the settings append are not modelled.
-/
namespace TallyVerif.Fs
open TallyVerif.Gen

/-! ## tie: the extracted call order is a modelled one -/

/-- translator obligation: the statement order of file-system calls extracted from `_migrate_csv_to_rules`,
    `migrate_v0_to_v1`, `init_config`, `cmd_init` is the order of one of the modelled variants -/
theorem extracted_order_is_modelled :
    (detectCsv FsSteps.migrateCsv FsSteps.migrateCsvMentionTest).isSome = true ∧
    (detectLayout FsSteps.migrateLayout).isSome = true ∧
    FsSteps.initConfig = initConfigCalls ∧ FsSteps.cmdInit = cmdInitCalls := by decide

/-- a budget on which every guard of the CSV migration fires -/
def fullShape : Shape := ⟨.plain, .withRules, true, true, true, false, true⟩

/-- the model's own event trace has the call order of its signature (code as it is) -/
theorem model_trace_is_signature_impl :
    traceCalls (complete .impl .upMigrate (fullShape.fs id : FS Sym)) = CsvVariant.impl.calls ∧
    traceCalls (complete .impl .layout ((⟨true, true, false, false, false⟩ : LShape).fs id : FS Sym))
      = expandLoops LayoutVariant.impl.calls none := by decide +kernel

/-- the model's own event trace has the call order of its signature (repaired order) -/
theorem model_trace_is_signature_repaired :
    traceCalls (complete .repaired .upMigrate (fullShape.fs id : FS Sym)) = CsvVariant.repaired.calls ∧
    traceCalls (complete .repaired .layout ((⟨true, true, false, false, false⟩ : LShape).fs id : FS Sym))
      = expandLoops LayoutVariant.configLast.calls none := by decide +kernel

/-! ## the property, for the repaired statement order -/

/-- C15, CSV→.rules migration via `tally up --migrate`, interruption clause: for every budget shape, every
    prefix of `k` file-system events and every state of the in-flight file, `Safe` holds. -/
theorem csv_migration_safe (s : Shape) (k : Nat) (part : Partial) :
    Safe .repaired .upMigrate (s.fs id) (crashAt .repaired .upMigrate (s.fs id) k part) :=
  up_crash_safe (s.upReady id rfl ⟨rfl, rfl⟩) k part

/-- C15, CSV migration via `tally up --migrate`, I/O-error clause: an `OSError` at any single event leaves a
    `Safe` tree, and the run in which it happened stopped or classified with rules ≃ the user's.  The tree is a crash state
    (interruption clause); what the run classified with is evaluated (`upRun_all`). -/
theorem csv_migration_fault_safe (s : Shape) (k : Nat) (hk : k < numEvents .repaired .upMigrate (s.fs id)) :
    SafeRun .repaired .upMigrate (s.fs id) (faultAt .repaired .upMigrate (s.fs id) k) :=
  up_fault_safe (csv_migration_safe s) (all_shapes upRun_all s) k

/-- C15, CSV migration via `tally init` (migration, then `init_config`, then the views line), interruption clause -/
theorem init_migration_safe (s : Shape) (k : Nat) (part : Partial) :
    Safe .repaired .init (s.fs id) (crashAt .repaired .init (s.fs id) k part) :=
  init_crash_safe (s.initReady id rfl ⟨rfl, rfl⟩) k part

/-- C15, `tally init`, I/O-error clause.  An error after the migration step propagates (or is swallowed by the last step),
    which leaves a crash state: the interruption clause covers it.  An error inside the migration step is swallowed by its
    handler and `init` goes on from a crash state of that step with the in-flight file written out. -/
theorem init_migration_fault_safe (s : Shape) (k : Nat) (hk : k < numEvents .repaired .init (s.fs id)) :
    SafeRun .repaired .init (s.fs id) (faultAt .repaired .init (s.fs id) k) :=
  ⟨init_fault_safe (s.initReady id rfl ⟨rfl, rfl⟩) k, nofun⟩

/-- C15, folder-layout migration (`tally update --yes`), interruption clause (config/ moved last) -/
theorem layout_migration_safe (s : LShape) (k : Nat) (part : Partial) :
    Safe .repaired .layout (s.fs id) (crashAt .repaired .layout (s.fs id) k part) :=
  crash_safe_of_check (all_lshapes layoutCrash_all s) k part

/-- C15, folder-layout migration, I/O-error clause -/
theorem layout_migration_fault_safe (s : LShape) (k : Nat) (hk : k < numEvents .repaired .layout (s.fs id)) :
    SafeRun .repaired .layout (s.fs id) (faultAt .repaired .layout (s.fs id) k) := by
  obtain ⟨j, e⟩ := layout_fault_closes .repaired (s.fs id : FS Sym) k
  exact ⟨e ▸ layout_migration_safe s j .full, nofun⟩

/-- what holds for the layout migration *as it is*: safe whenever there is no data/ to strand or nothing to do.
    Full statement (`∀ s`) is false: `D15d_layout_crash_strands_data`. -/
theorem layout_migration_impl_safe_partial (s : LShape) (h : s.data = false ∨ s.schema = true)
    (k : Nat) (part : Partial) :
    Safe .impl .layout (s.fs id) (crashAt .impl .layout (s.fs id) k part) := by
  have hall : (allLShapes.all fun s => (s.data && !s.schema) || crashCheck .impl .layout (s.fs id)) = true := by
    decide +kernel
  have hs := all_lshapes hall s
  refine crash_safe_of_check ?_ k part
  rcases h with h | h <;> simp [h] at hs <;> exact hs

/-! ## counterexamples on the code as it is (`Variants.impl`) -/

/-- the plain legacy budget: settings.yaml without `merchants_file:`, a CSV with rules, nothing else in the way -/
def legacy : Shape := ⟨.plain, .withRules, false, false, false, false, true⟩

/-- **D15a**: crash right after `shutil.move(csv, csv.bak)` (4 events) — "No merchant rules found" although the
    rules are on disk twice, and re-running `tally up --migrate` changes nothing. -/
theorem D15a_crash_after_move_strands :
    ¬ Safe .impl .upMigrate (legacy.fs id) (crashAt .impl .upMigrate (legacy.fs id) 4 .full) ∧
    effective (crashAt .impl .upMigrate (legacy.fs id : FS Sym) 4 .full)
      = ⟨.none, some [.orig .stmt { kind := .data }]⟩ ∧
    rerun .impl .upMigrate (crashAt .impl .upMigrate (legacy.fs id : FS Sym) 4 .full)
      = crashAt .impl .upMigrate (legacy.fs id) 4 .full := by decide +kernel

/-- **D15b**: `OSError` when opening settings.yaml for append (event 4): the same stranded tree, and the very run
    goes on with the moved-away CSV path, i.e. with an empty rule set. -/
theorem D15b_fault_in_settings_append :
    ¬ SafeRun .impl .upMigrate (legacy.fs id) (faultAt .impl .upMigrate (legacy.fs id) 4) ∧
    (faultAt .impl .upMigrate (legacy.fs id : FS Sym) 4).2 = .used .none := by decide +kernel

/-- **D15c**: an existing `merchant_categories.csv.bak` is silently replaced (uninterrupted run). -/
theorem D15c_existing_bak_clobbered :
    preserved ({ legacy with csvBak := true }.fs id : FS Sym)
      (complete .impl .upMigrate ({ legacy with csvBak := true }.fs id)).fs = false := by decide +kernel

/-- **D15c'**: `tally up --migrate` overwrites an existing (unreferenced) `config/merchants.rules`. -/
theorem D15c_existing_rules_overwritten :
    preserved ({ legacy with rules := true }.fs id : FS Sym)
      (complete .impl .upMigrate ({ legacy with rules := true }.fs id)).fs = false := by decide +kernel

/-- **D15d**: layout migration interrupted after `config/` moved (2 events): the statements stay behind in
    `./data`, and `tally update` refuses to continue (`dirname(config) ≠ cwd`). -/
theorem D15d_layout_crash_strands_data :
    ¬ Safe .impl .layout ((⟨true, true, false, false, false⟩ : LShape).fs id)
        (crashAt .impl .layout ((⟨true, true, false, false, false⟩ : LShape).fs id) 2 .full) ∧
    (effective (crashAt .impl .layout ((⟨true, true, false, false, false⟩ : LShape).fs id : FS Sym) 2 .full)).data = none ∧
    rerun .impl .layout (crashAt .impl .layout ((⟨true, true, false, false, false⟩ : LShape).fs id : FS Sym) 2 .full)
      = crashAt .impl .layout ((⟨true, true, false, false, false⟩ : LShape).fs id) 2 .full := by decide +kernel

/-- **D15e**: settings.yaml mentions `merchants_file:` only in a comment — the *uninterrupted* migration moves the
    CSV away and appends nothing: the budget ends with "No merchant rules found". -/
theorem D15e_comment_only_mention_strands :
    ¬ Safe .impl .upMigrate ({ legacy with settings := .commentMF }.fs id)
        (complete .impl .upMigrate ({ legacy with settings := .commentMF }.fs id : FS Sym)).fs := by decide +kernel

/-! ## non-vacuity -/

example : (effective (legacy.fs id : FS Sym)).rules.usable = true := by decide
example : numEvents .repaired .upMigrate (legacy.fs id : FS Sym) = 9 := by decide +kernel
example : numEvents .repaired .init (legacy.fs id : FS Sym) = 22 := by decide +kernel
example : (effective (complete .repaired .upMigrate (legacy.fs id : FS Sym)).fs).rules = .rules [.migrated .csv] := by
  decide +kernel
/-- the repaired order at the D15a point: still classifying with the CSV -/
example : (effective (crashAt .repaired .upMigrate (legacy.fs id : FS Sym) 4 .half)).rules
    = .csv [.orig .csv { kind := .csvRules }] := by decide +kernel

end TallyVerif.Fs
