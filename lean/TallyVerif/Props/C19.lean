import TallyVerif.Lemmas.Discover
/-!
# C19 — every rule that `tally discover` suggests matches the transaction it was suggested for

FULL STATEMENT (all descriptions `d`, all oracles `o`):
  (1) the rule text proposed for `d` is accepted by the rules loader, and
  (2) once given a category it matches `d`  [`matchesSuggested o d = true`], hence
  (3) appending the suggested rules strictly shrinks the Unknown list.

`Model/Discover.lean`: `Impl.*` mirrors commands/discover.py of the tree the verification started from ("the code as it
is" below); `Fixed.*` is the same pipeline with the repair of notes/fix_D19.diff, which /repo carries since its commit
ed1e514.  What is proved here, over that model and the C17 model of the rules parser:

* (1) `suggestion_loads` / `Fixed.suggestion_loads` — for ALL descriptions: the block is read as exactly one rule
  carrying the suggested name, the match expression as written and the category given, under decidable
  side conditions on the merchant name (`NameOk`: no white space at its ends — the model cannot rule that out for
  arbitrary non-ASCII title-casing tables) and with "the expression parser accepts `contains("…")`" as the
  parameter `ve` of the C17 model.  `literal_of_suggestion` complements it: for ALL NUL-free descriptions the text
  between the quotes is a well-formed Python string literal and its value is given in closed form — the words of
  the cleaned description, metacharacters still carrying their backslash, joined by the three characters `\s*`.
  That closed form is D19a made visible: `contains` looks for those characters literally.
* (2) is FALSE for the code as it is.  `counterexample_D19a_multiword`, `counterexample_D19a_dotted`,
  `counterexample_D19b_store_number` are kernel-checked on the pre-registered witnesses (and replayed on the real
  code by the harness); `D19a_is_only_the_wrapper` / `D19b_regex_reading_fails_too` separate the two defects.
  `suggestion_matches_partial` proves (2) on `Plain` descriptions — no store number deleted from the middle, the
  cleaned description is one word without regex metacharacters other than the backslash.  What is missing for the
  full statement is exactly the complement: D19a and D19b.
* For the REPAIRED pipeline (2) is proved for all descriptions in this form: `Fixed.suggestion_matches` — the
  upper-cased description contains a member of the language `w1 ws* w2 ws* w3` of the emitted regex
  (`Fixed.pattern_is_escaped_words`: the pattern is those words, escaped, joined by `\s*`).  That CPython's
  `re.search(…, re.IGNORECASE)` decides membership in that language is the remaining tie, checked by correspondence
  on every run (it fails only for the 102 characters whose `str.upper()` is longer than one character — D19c).
* (3) is not a Lean theorem: it follows from (2) for any non-empty Unknown list and is checked by the oracle.
-/
namespace TallyVerif.Discover.C19
open TallyVerif.RulesFile TallyVerif.Discover

/-- decidable side condition of clause (1): the suggested merchant name has no white space at its ends
(it is `' '.join(words).title()`, so this can only fail through an exotic title-casing table) -/
def NameOk (o : Oracles) (d : Str) : Prop := trimmedB (Impl.suggestMerchantName o d) = true
instance (o : Oracles) (d : Str) : Decidable (NameOk o d) := by unfold NameOk; infer_instance

/-- `Plain d` (decidable): deleting store numbers removes at most a tail of the description, and the cleaned
description is a single word without NUL and without regex metacharacters other than the backslash -/
def Plain (o : Oracles) (d : Str) : Prop := plainB o d = true
instance (o : Oracles) (d : Str) : Decidable (Plain o d) := by unfold Plain; infer_instance

/-- Clause (1), code as it is: for every description, the proposed block with `cat` / `sub` filled in (the
placeholders `CATEGORY` / `SUBCATEGORY` included) is accepted by the rules parser and read as exactly one rule:
the suggested name, `contains("…")` as written, the category given.  `ve` = "parse_expression accepts". -/
theorem suggestion_loads (o : Oracles) (ve : Str → Bool) (d cat sub : Str) (tags : List Str)
    (hname : NameOk o d) (hve : ve (matchExprText (Impl.suggestPattern o d)) = true)
    (hc : trimmedB cat = true) (hs : trimmedB sub = true)
    (ht : tags.isEmpty = true ∨ trimmedB (joinWith [',', ' '] tags) = true) :
    RulesFile.Impl.parseRulesFile ve
        (ruleLines (matchExprText (Impl.suggestPattern o d)) (Impl.suggestMerchantName o d) cat sub tags) =
      .ok { rules := [loadedRule (matchExprText (Impl.suggestPattern o d)) (Impl.suggestMerchantName o d) cat sub tags],
            variables := [], transforms := [] } :=
  ruleLines_load ve (matchExprText_trimmed _) hve hname hc hs ht

/-- Clause (1), repaired code (`regex(r"…")` or `contains("…")`). -/
theorem Fixed.suggestion_loads (o : Oracles) (ve : Str → Bool) (d cat sub : Str) (tags : List Str)
    (hname : NameOk o d) (hve : ve (Fixed.matchExprText (Fixed.suggestPattern o d)) = true)
    (hc : trimmedB cat = true) (hs : trimmedB sub = true)
    (ht : tags.isEmpty = true ∨ trimmedB (joinWith [',', ' '] tags) = true) :
    RulesFile.Impl.parseRulesFile ve
        (ruleLines (Fixed.matchExprText (Fixed.suggestPattern o d)) (Impl.suggestMerchantName o d) cat sub tags) =
      .ok { rules := [loadedRule (Fixed.matchExprText (Fixed.suggestPattern o d)) (Impl.suggestMerchantName o d) cat sub tags],
            variables := [], transforms := [] } :=
  ruleLines_load ve (Discover.Fixed.matchExprText_trimmed _) hve hname hc hs ht

/-- Clause (1), the literal: for every NUL-free description the text between the quotes of `contains("…")` is a
well-formed string literal, and the loaded rule looks for: the first three words of the cleaned description,
each metacharacter but the backslash still preceded by a backslash, joined by the characters `\s*`. -/
theorem literal_of_suggestion (o : Oracles) (d : Str) (h0 : NoNul (clean o d)) :
    literalOf (Impl.suggestPattern o d) =
      some (joinWith reWs (((splitWs (clean o d)).take 3).map litWord)) :=
  literalOf_patternOf_strip h0

/-- Clause (2), partial — the code as it is: on `Plain` descriptions the suggested rule matches the description
it was suggested for.  (`UpperIdem`: `str.upper()` is idempotent — a law of the oracle, checked over all code
points on every run; it holds outright for ASCII, see `upperIdem_ascii`.)
FULL statement `∀ d, matchesSuggested o d = true` is false: see the counterexamples below. -/
theorem suggestion_matches_partial (o : Oracles) (hU : UpperIdem o) (d : Str) (hp : Plain o d) :
    matchesSuggested o d = true := by
  simp only [Plain, plainB, Bool.and_eq_true, List.all_eq_true, Bool.not_eq_true', bne_iff_ne, ne_eq, imp_and,
    forall_and] at hp
  obtain ⟨hstore, ⟨hword, hplain⟩, hnul⟩ := hp
  rw [matchesSuggested_eq o d hnul]
  by_cases hnil : clean o d = []
  · rw [hnil]; exact isInfixB_of_infix List.nil_infix
  · rw [splitWs_single hnil hword]
    show containsCI o (litWord (clean o d)) d = true
    rw [litWord_plain hplain]
    exact containsCI_of_infix o hU (clean_infix o d hstore)

/-- the repaired pipeline emits the words of the cleaned description, escaped, joined by `\s*` -/
theorem Fixed.pattern_is_escaped_words (o : Oracles) (d : Str) (h : Fixed.regexWords o d ≠ []) :
    Fixed.suggestPattern o d = joinWith reWs ((Fixed.regexWords o d).map escapeRe) :=
  patternOf_words h

/-- Clause (2), repaired code, ALL descriptions: the upper-cased description contains a member of the language
`w1 ws* w2 ws* w3` of the regex that is emitted (each word read literally, `\s*` = a white-space run). -/
theorem Fixed.suggestion_matches (o : Oracles) (d : Str) :
    Fixed.langSearch (Fixed.regexWords o d) (upper o d) = true :=
  langSearch_of_infix 3 (Discover.Fixed.cleanU_infix o _)

/-- the same with the optional third change (upper-casing keeps 'ß' & co.): the description, upper-cased that
way, contains a member of the language of the emitted regex — and for THAT upper-casing `re.IGNORECASE` equates
every character with its image, so the tie to CPython's `re` has no exception left -/
theorem Fixed.suggestion_matches_keep (o : Oracles) (d : Str) :
    Fixed.langSearch (Fixed.regexWordsKeep o d) (Fixed.upperKeep o d) = true :=
  langSearch_of_infix 3 (Discover.Fixed.cleanU_infix o _)

/-- the repaired pipeline keeps a contiguous piece of the upper-cased description (no deletion from the middle) -/
theorem Fixed.cleaned_is_a_piece (o : Oracles) (d : Str) : ∃ a b, upper o d = a ++ Fixed.clean o d ++ b :=
  let ⟨a, b, h⟩ := Discover.Fixed.cleanU_infix o (upper o d)
  ⟨a, b, h.symm⟩

/-! ## the code as it is violates clause (2): kernel-checked witnesses (D19a, D19b) -/

/-- D19a: `contains("STARBUCKS\s*STORE")` does not match `STARBUCKS STORE 12345 SEATTLE WA` -/
theorem counterexample_D19a_multiword :
    Impl.suggestPattern asciiOracles "STARBUCKS STORE 12345 SEATTLE WA".toList = "STARBUCKS\\s*STORE".toList ∧
    matchesSuggested asciiOracles "STARBUCKS STORE 12345 SEATTLE WA".toList = false := by
  -- a literal is `String.ofList` of its characters: unpacked by the lemma, the kernel need not decode UTF-8
  repeat rw [String.toList_ofList]
  decide +kernel

/-- D19a: `contains("NETFLIX\.COM")` does not match `NETFLIX.COM` -/
theorem counterexample_D19a_dotted :
    Impl.suggestPattern asciiOracles "NETFLIX.COM".toList = "NETFLIX\\.COM".toList ∧
    matchesSuggested asciiOracles "NETFLIX.COM".toList = false := by
  repeat rw [String.toList_ofList]
  decide +kernel

/-- D19b: the store number is deleted from the middle: `contains("SHOP\s*MAIN")` does not match `SHOP #12 MAIN` -/
theorem counterexample_D19b_store_number :
    Impl.suggestPattern asciiOracles "SHOP #12 MAIN".toList = "SHOP\\s*MAIN".toList ∧
    matchesSuggested asciiOracles "SHOP #12 MAIN".toList = false := by
  repeat rw [String.toList_ofList]
  decide +kernel

/-- for the D19a witnesses a regex reading of the very same pattern would match: the defect is the `contains` wrapper -/
theorem D19a_is_only_the_wrapper :
    Fixed.langSearch ((splitWs (clean asciiOracles "STARBUCKS STORE 12345 SEATTLE WA".toList)).take 3)
      (upper asciiOracles "STARBUCKS STORE 12345 SEATTLE WA".toList) = true ∧
    Fixed.langSearch ((splitWs (clean asciiOracles "NETFLIX.COM".toList)).take 3)
      (upper asciiOracles "NETFLIX.COM".toList) = true := by
  repeat rw [String.toList_ofList]
  decide +kernel

/-- for the D19b witness even a regex reading of the pattern fails; the repaired pipeline proposes `SHOP` -/
theorem D19b_regex_reading_fails_too :
    Fixed.langSearch ((splitWs (clean asciiOracles "SHOP #12 MAIN".toList)).take 3)
      (upper asciiOracles "SHOP #12 MAIN".toList) = false ∧
    Fixed.suggestPattern asciiOracles "SHOP #12 MAIN".toList = "SHOP".toList := by
  repeat rw [String.toList_ofList]
  decide +kernel

/-! ## non-vacuity: the hypotheses hold on concrete inputs -/

private instance exceptDecEq {ε α : Type} [DecidableEq ε] [DecidableEq α] : DecidableEq (Except ε α) := fun a b =>
  match a, b with
  | .ok x, .ok y => if h : x = y then isTrue (by rw [h]) else isFalse (by intro e; cases e; exact h rfl)
  | .error x, .error y => if h : x = y then isTrue (by rw [h]) else isFalse (by intro e; cases e; exact h rfl)
  | .ok _, .error _ => isFalse (by intro e; cases e)
  | .error _, .ok _ => isFalse (by intro e; cases e)

example : UpperIdem asciiOracles := upperIdem_ascii
example : Plain asciiOracles "SQ *Joe\"s #12".toList := by
  repeat rw [String.toList_ofList]
  decide +kernel
example : matchesSuggested asciiOracles "SQ *Joe\"s #12".toList = true := by
  repeat rw [String.toList_ofList]
  decide +kernel
example : Plain asciiOracles "C:\\FEE 12345".toList ∧ literalOf (Impl.suggestPattern asciiOracles "C:\\FEE 12345".toList) = some "C:\\FEE".toList := by
  repeat rw [String.toList_ofList]
  decide +kernel
example : ¬ Plain asciiOracles "SHOP #12 MAIN".toList ∧ ¬ Plain asciiOracles "NETFLIX.COM".toList := by
  repeat rw [String.toList_ofList]
  decide +kernel
example : NameOk asciiOracles "STARBUCKS STORE 12345 SEATTLE WA".toList ∧ NameOk asciiOracles "".toList := by
  repeat rw [String.toList_ofList]
  decide +kernel
example : NoNul (clean asciiOracles "STARBUCKS STORE 12345 SEATTLE WA".toList) := by
  rw [String.toList_ofList]
  unfold NoNul
  decide +kernel
example : trimmedB placeholderCat = true ∧ trimmedB placeholderSub = true ∧
    trimmedB (joinWith [',', ' '] ["refund".toList]) = true := by
  repeat rw [String.toList_ofList]
  decide +kernel
/-- the block proposed for the D19a witness, as the parser reads it (the placeholders are a category too) -/
example : RulesFile.Impl.parseRulesFile (fun _ => true)
    (Impl.suggestRule (Impl.suggestMerchantName asciiOracles "STARBUCKS STORE 12345 SEATTLE WA".toList)
      (Impl.suggestPattern asciiOracles "STARBUCKS STORE 12345 SEATTLE WA".toList) ["refund".toList]) =
    .ok { rules := [{ name := "Starbucks Store".toList, merchant := "Starbucks Store".toList,
                      category := "CATEGORY".toList, subcategory := "SUBCATEGORY".toList, tags := ["refund".toList],
                      priority := 50, matchExpr := "contains(\"STARBUCKS\\s*STORE\")".toList, lets := [], fields := [] }],
          variables := [], transforms := [] } := by
  repeat rw [String.toList_ofList]
  decide +kernel
example : Fixed.matchExprText (Fixed.suggestPattern asciiOracles "STARBUCKS STORE 12345 SEATTLE WA".toList) =
    "regex(r\"STARBUCKS\\s*STORE\")".toList ∧
    Fixed.matchExprText (Fixed.suggestPattern asciiOracles "Joe\"s".toList) = "contains(\"JOE\\\"S\")".toList ∧
    Fixed.regexWords asciiOracles "STARBUCKS STORE 12345 SEATTLE WA".toList = ["STARBUCKS".toList, "STORE".toList] := by
  repeat rw [String.toList_ofList]
  decide +kernel

end TallyVerif.Discover.C19
