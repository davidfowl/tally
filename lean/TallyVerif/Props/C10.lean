/-
C10 — a merchant appears in a view exactly when the view's filter is true of it.

Model: `View.classifyViews` (= `analyzer.classify_by_sections` ∘ `section_engine.classify_merchants`) over
`View.eval` (= `expr_parser.ExpressionEvaluator` + `ExpressionContext`), tied to the code by the
correspondence streams of harness/props/c10.py.  `convert = true` is `_eval_Expression` after the D8
repair.  Every statement is for every oracle family (`statistics.stdev`, libm `pow`, `round`, float `%`,
`str.lower`), every views configuration and every merchant list.  `Err.unmodelled` is the model's own
"I do not cover this construct / I need an oracle entry" outcome; it is not an exception of the
implementation.
-/
import TallyVerif.Lemmas.View

namespace TallyVerif.Props.C10
open TallyVerif.Py TallyVerif.View
open TallyVerif.Expr (Expr Link CmpOp)

/-- no two views share a name.  FORCED by the code: `{section.name: [] for section in config.sections}`
merges equal names (observation recorded by the harness: two `[V]` views list the union). -/
def distinctNames (secs : List Section) : Prop := (secs.map (·.name)).Nodup

instance (secs : List Section) : Decidable (distinctNames secs) := by unfold distinctNames; infer_instance

/-- what the view engine sees of a merchant: its own payments, re-dated to the 15th of their month -/
abbrev ctxOf (m : Merchant) : List Txn := sectionTxns m

/-- the view's filter, evaluated on its own (global variables, then the view's variables, then the
filter) over one payment list, yields a true value -/
def filterTrue (convert : Bool) (o : Oracles) (cfg : Config) (pd : List (String × Val)) (v : Section)
    (txns : List Txn) : Prop :=
  holdsE convert o cfg.globals pd txns v = .ok true

def ModelGaveUp (e : Err) : Prop := ∃ w, e = .unmodelled w

/-! ### membership -/

/-- Clause 1 (general form, NO hypothesis): a merchant is listed under a view name once per view of
that name whose filter is true of it; merchants tagged income / transfer / investment are never
listed. -/
theorem member_general (c : Bool) (o : Oracles) (lower : String → String) (cfg : Config) (n : Nat)
    (ms : List Merchant) (name : String) (m : Merchant) :
    m ∈ members (classifyViews c o lower cfg n ms) name ↔
      m ∈ ms ∧ excluded lower m = false ∧
        ∃ v ∈ cfg.sections, v.name = name ∧
          filterTrue c o cfg (periodData n (keptMerchants lower ms)) v (ctxOf m) := by
  unfold classifyViews
  simp only [mem_members_classifyMerchants, keptMerchants, List.mem_filter, Bool.not_eq_true', merchantHolds, holds_iff,
    filterTrue, and_assoc]

/-- under distinct view names the member list of a view is exactly the kept merchants on which ITS
filter is true, in `by_merchant` order -/
theorem members_eq_filter (c : Bool) (o : Oracles) (lower : String → String) (cfg : Config) (n : Nat)
    (ms : List Merchant) (v : Section) (hv : v ∈ cfg.sections) (hd : distinctNames cfg.sections) :
    members (classifyViews c o lower cfg n ms) v.name =
      (keptMerchants lower ms).filter
        (fun m => holds c o cfg.globals (periodData n (keptMerchants lower ms)) (ctxOf m) v) := by
  unfold classifyViews
  exact members_classifyMerchants _ cfg.sections _ v hv hd

/-- Clause 1: `m ∈ members v ↔ ¬ excluded m.tags ∧ filterTrue v (ctxOf m)` -/
theorem member_iff (c : Bool) (o : Oracles) (lower : String → String) (cfg : Config) (n : Nat)
    (ms : List Merchant) (v : Section) (hv : v ∈ cfg.sections) (hd : distinctNames cfg.sections) (m : Merchant) :
    m ∈ members (classifyViews c o lower cfg n ms) v.name ↔
      m ∈ ms ∧ excluded lower m = false ∧
        filterTrue c o cfg (periodData n (keptMerchants lower ms)) v (ctxOf m) := by
  rw [members_eq_filter c o lower cfg n ms v hv hd]
  simp only [List.mem_filter, keptMerchants, Bool.not_eq_true', holds_iff, filterTrue, and_assoc]

/-- Clause 2: views are independent — in any two views files with the same global variables that
both contain the view `v` (views added, removed, reordered around it), `v` has the same members in
the same order. -/
theorem views_independent (c : Bool) (o : Oracles) (lower : String → String) (cfg cfg' : Config) (n : Nat)
    (ms : List Merchant) (hg : cfg.globals = cfg'.globals) (v : Section)
    (hv : v ∈ cfg.sections) (hv' : v ∈ cfg'.sections)
    (hd : distinctNames cfg.sections) (hd' : distinctNames cfg'.sections) :
    members (classifyViews c o lower cfg n ms) v.name = members (classifyViews c o lower cfg' n ms) v.name := by
  rw [members_eq_filter c o lower cfg n ms v hv hd, members_eq_filter c o lower cfg' n ms v hv' hd', hg]

/-- the excluded point of `distinctNames`: two views called `V`; the entry `V` lists the union
(here merchant `A` through the first `V`, merchant `B` through the second) — independence fails. -/
theorem equal_names_merge :
    let o : Oracles := ⟨⟨fun _ => none, fun _ => none, fun _ _ => none, fun _ _ => none, fun _ _ _ => none,
      fun _ _ => none, fun _ => none, fun _ => none, fun _ _ => none, fun _ _ => none⟩,
      fun _ => none, fun _ => none, fun _ => none⟩
    let isFood : Expr := .cmp (.name "category") [.mk .eq (.const (.str "Food"))]
    let isBills : Expr := .cmp (.name "category") [.mk .eq (.const (.str "Bills"))]
    let a : Merchant := ⟨"A", "Food", "", [], [⟨2025, 1, .int 5⟩], .int 5⟩
    let b : Merchant := ⟨"B", "Bills", "", [], [⟨2025, 1, .int 7⟩], .int 7⟩
    let both : Config := ⟨[], [⟨"V", isFood, []⟩, ⟨"V", isBills, []⟩]⟩
    let one : Config := ⟨[], [⟨"V", isFood, []⟩]⟩
    (members (classifyViews true o lowerAscii both 12 [a, b]) "V").map (·.name) = ["A", "B"] ∧
    (members (classifyViews true o lowerAscii one 12 [a, b]) "V").map (·.name) = ["A"] := by
  decide +kernel

/-! ### totals -/

def intTotal (m : Merchant) : Int := match m.total with | .int i => i | _ => 0

/-- Clause 3: each view's total is the sum of its members' totals (exact amounts: integer cents). -/
theorem view_total (c : Bool) (o : Oracles) (lower : String → String) (cfg : Config) (n : Nat)
    (ms : List Merchant) (name : String) (hint : ∀ m ∈ ms, ∃ i, m.total = .int i) :
    sectionTotal (members (classifyViews c o lower cfg n ms) name) =
      .ok (.int ((members (classifyViews c o lower cfg n ms) name).map intTotal).sum) :=
  pySum_map_int (fun m hm => hint m ((member_general c o lower cfg n ms name m).mp hm).1)

/-! ### failing filters -/

/-- Clause 4a (needs the D8 repair, `convert = true`): evaluating a view for a merchant never raises —
neither ExpressionError nor any Python exception leaves `evaluate_section_filter` /
`evaluate_variables`; the only non-value outcome is the model's own give-up. -/
theorem no_exception_escapes (o : Oracles) (g : List (String × Expr)) (pd : List (String × Val))
    (txns : List Txn) (s : Section) (err : Err) (h : holdsE true o g pd txns s = .error err) : ModelGaveUp err := by
  unfold holdsE at h
  split at h
  next hglobals =>
    cases h
    exact evalVariables_true_error hglobals
  next =>
    unfold sectionHoldsE at h
    split at h
    next hlocals =>
      cases h
      split at hlocals
      · cases hlocals
      · exact evalVariables_true_error hlocals
    next =>
      split at h
      next => cases h
      next => cases h
      next hne hfilter =>
        cases h
        exact gaveUp_of_evalRoot hfilter hne

/-- Clause 4b: the run continues — `classify_by_sections` as a whole aborts on nothing but the model's
own give-up -/
theorem run_continues (o : Oracles) (lower : String → String) (cfg : Config) (n : Nat) (ms : List Merchant)
    (err : Err) (h : aborts true o lower cfg n ms = some err) : ModelGaveUp err := by
  unfold aborts at h
  simp only [] at h
  obtain ⟨r, hr, hf⟩ := List.exists_of_findSome?_eq_some h
  simp only [List.mem_flatMap, List.mem_map] at hr
  obtain ⟨m, _, s, _, rfl⟩ := hr
  split at hf
  next heq =>
    cases hf
    exact no_exception_escapes o _ _ _ _ _ heq
  next => cases hf

/-- Clause 4c: a filter whose evaluation raises — ExpressionError or ANY Python exception — in the
context the view builds for the merchant excludes the merchant from that view. -/
theorem error_excludes (o : Oracles) (lower : String → String) (cfg : Config) (n : Nat) (ms : List Merchant)
    (v : Section) (hv : v ∈ cfg.sections) (hd : distinctNames cfg.sections) (m : Merchant)
    (g vars : Vars)
    (hg : evalVariables true o (ctxOf m) (periodData n (keptMerchants lower ms)) cfg.globals [] = .ok g)
    (hl : (if v.variables.isEmpty then .ok g
           else evalVariables true o (ctxOf m) (periodData n (keptMerchants lower ms)) v.variables g) = .ok vars)
    (err : Err)
    (he : View.eval o { txns := ctxOf m, variables := vars, period := periodData n (keptMerchants lower ms) } v.filter
            = .error err) :
    m ∉ members (classifyViews true o lower cfg n ms) v.name := by
  rw [member_iff true o lower cfg n ms v hv hd]
  rintro ⟨_, _, ht⟩
  rw [filterTrue, holdsE_stages true o v g vars hg hl, evalRoot, he] at ht
  cases err <;> simp at ht

/-- D8 on the code as pinned (`convert = false`): the view filter `total > "x"` aborts the whole
classification with TypeError; after the repair nothing aborts, the broken view is empty and the other
view is unaffected. -/
theorem d8_witness :
    let o : Oracles := ⟨⟨fun _ => none, fun _ => none, fun _ _ => none, fun _ _ => none, fun _ _ _ => none,
      fun _ _ => none, fun _ => none, fun _ => none, fun _ _ => none, fun _ _ => none⟩,
      fun _ => none, fun _ => none, fun _ => none⟩
    let broken : Expr := .cmp (.name "total") [.mk .gt (.const (.str "x"))]
    let monthly : Expr := .cmp (.name "months") [.mk .ge (.const (.int 2))]
    let a : Merchant := ⟨"A", "Food", "", [], [⟨2024, 12, .int 5⟩, ⟨2025, 1, .int 6⟩], .int 11⟩
    let cfg : Config := ⟨[], [⟨"Broken", broken, []⟩, ⟨"Monthly", monthly, []⟩]⟩
    aborts false o lowerAscii cfg 12 [a] = some (.py .typeError) ∧
    aborts true o lowerAscii cfg 12 [a] = none ∧
    (classifyViews true o lowerAscii cfg 12 [a]).map (fun kv => (kv.1, kv.2.map (·.name)))
      = [("Broken", []), ("Monthly", ["A"])] := by
  decide +kernel

/-! ### variables: evaluated for THIS merchant, in file order (no value is shared between merchants) -/

/-- `evaluate_variables` over a file `a ++ b` = the block `a`, then the block `b` on top of what `a` produced -/
theorem evalVariables_append (c : Bool) (o : Oracles) (txns : List Txn) (pd : List (String × Val))
    (a b : List (String × Expr)) (res : Vars) :
    evalVariables c o txns pd (a ++ b) res =
      (match evalVariables c o txns pd a res with
       | .ok g => evalVariables c o txns pd b g
       | .error e => .error e) := by
  induction a generalizing res with
  | nil => simp [evalVariables]
  | cons hd tl ih =>
    obtain ⟨n, e⟩ := hd
    simp only [List.cons_append, evalVariables]
    split <;> first | exact ih _ | rfl

/-- **A derived global sees this merchant's values.** The global declared after the block `pre` is evaluated over the
SAME merchant's payments `txns`, in the environment `g` that `pre` produced for that merchant — whether or not its own
text mentions a primitive. (So a variable written purely in terms of other variables, e.g. `is_habit = monthly > limit`
after `monthly = total / months`, is as merchant-dependent as `monthly` is: no global may be evaluated once for all
merchants unless every variable it reaches is a constant.) ExpressionError ⇒ the variable is `None` for this merchant. -/
theorem derived_global_per_merchant (c : Bool) (o : Oracles) (txns : List Txn) (pd : List (String × Val))
    (pre : List (String × Expr)) (n : String) (e : Expr) :
    evalVariables c o txns pd (pre ++ [(n, e)]) [] =
      (match evalVariables c o txns pd pre [] with
       | .error err => .error err
       | .ok g =>
         match evalRoot c o { txns := txns, variables := g, period := pd } e with
         | .ok x => .ok (setKey n x g)
         | .error (.expr _) => .ok (setKey n (.v .none) g)
         | .error err => .error err) := by
  rw [evalVariables_append]
  cases evalVariables c o txns pd pre [] with
  | error err => rfl
  | ok g =>
    simp only [evalVariables]
    split <;> simp_all

/-! ### the documented primitives -/

/-- `months` = number of distinct active months: `monthSet` enumerates the `%Y-%m` keys of the dated
payments without repetition, and `months` is its length (1 when there is no dated payment). -/
theorem months_def (ctx : Ctx) :
    (monthSet ctx.txns).Nodup ∧
    (∀ k, k ∈ monthSet ctx.txns ↔ ∃ t ∈ ctx.txns, ∃ d, t.date = some d ∧ k = fmtYm d) ∧
    getMonths ctx = if monthSet ctx.txns = [] then 1 else (monthSet ctx.txns).length := by
  refine ⟨?_, ?_, ?_⟩
  · rw [monthSet_eq]; exact firstSeen_nodup _
  · intro k
    simp only [monthSet_eq, mem_firstSeen, List.not_mem_nil, false_or, monthKeys, List.mem_filterMap,
      Option.map_eq_some_iff, @eq_comm _ k]
  · unfold getMonths
    cases h : monthSet ctx.txns <;> simp

/-- `total` = sum of the payments (exact amounts) -/
theorem total_def (ctx : Ctx) (hint : ∀ t ∈ ctx.txns, ∃ i, t.amount = .int i) :
    getTotal ctx = .ok (.int ((ctx.txns.map intAmount).sum)) :=
  pySum_map_int hint

/-- `cv` (exact amounts): 0.0 for fewer than two active months; otherwise `cvOfTotals` — population
σ / μ, i.e. `(Σ (x − μ)² / n) ** 0.5 / μ` with `μ = Σ x / n` — of the MONTHLY TOTALS, one per distinct
active month in first-seen order, each the exact sum of that month's payments. -/
theorem cv_def (o : Oracles) (ctx : Ctx) (hint : ∀ t ∈ ctx.txns, ∃ i, t.amount = .int i) :
    getCv o ctx =
      if (monthSet ctx.txns).length < 2 then .ok (.flt (B 0.0))
      else cvOfTotals o ((monthSet ctx.txns).map (fun k => Val.int (monthSum k ctx.txns))) := by
  unfold getCv
  rw [show monthlyGo ctx.txns [] = _ from monthlyGo_tab ctx.txns hint [] (fun _ => 0) (fun _ _ => rfl), ← monthSet_eq]
  simp [tab, Function.comp_def]

/-- `cv` is 0.0 when the mean of the monthly totals is 0 -/
theorem cv_mean_zero (o : Oracles) (values : List Val) (s avg : Val) (hs : pySum values = .ok s)
    (ha : pyArith .div s (.int values.length) = .ok avg) (hz : isZero avg = true) :
    cvOfTotals o values = .ok (.flt (B 0.0)) := by
  unfold cvOfTotals
  simp [bind, Except.bind, hs, ha, hz, pure, Except.pure]

/-! ### `stddev` is a real number: `0` below two values, otherwise exactly what `statistics.stdev` answers -/

/-- the aggregate clause for `stddev` ("as documented": the sample deviation of CPython's `statistics.stdev`, `0` for fewer than two
values): whenever `stddev` of a list has a value, that value is the int `0` (fewer than two values) or the very float the oracle
`statistics.stdev` returns for the list — no other arithmetic is involved, so the result is always a REAL number on which `== 0`,
`> 0`, `< t` can be evaluated (identical payments: `statistics.stdev` is exactly `0.0`, the merchant is in `stddev(payments) == 0`). -/
theorem stddev_is_stdev (o : Oracles) (xs : List Val) (r : Val) (h : aggStddev o (.v (.list xs)) = .ok r) :
    (xs.length < 2 ∧ r = .int 0) ∨ (2 ≤ xs.length ∧ ∃ b, o.stdev xs = some (.ok b) ∧ r = .flt b) := by
  obtain ⟨n, hn, h⟩ := aggStddev_ok o _ r h
  cases hn
  rcases h with h | ⟨h2, ys, b, hi, ho, hr⟩
  · exact Or.inl h
  · cases hi; exact Or.inr ⟨h2, b, ho, hr⟩

/-- … and of any view value: a real number (int `0` or a float) -/
theorem stddev_is_real (o : Oracles) (v : VVal) (r : Val) (h : aggStddev o v = .ok r) : r = .int 0 ∨ ∃ b, r = .flt b := by
  obtain ⟨_, _, ⟨_, hr⟩ | ⟨_, _, b, _, _, hr⟩⟩ := aggStddev_ok o v r h
  · exact Or.inl hr
  · exact Or.inr ⟨b, hr⟩

/-! ### the HTML report's data (`spendingData.sections`) -/

/-- no two views that have members share an id in the report's data.  This is a HYPOTHESIS about the id
function `idOf` of `write_summary_file_vue` (a function of the view NAME), checked by the harness on every
generated views file with the ids the real report hands out.  As pinned (`name.lower().replace(' ', '_')`) it
fails exactly for names that are equal once lower-cased with spaces written as underscores
(`[My View]` / `[my_view]`: recorded observation D12g, witness below). -/
def distinctIds {α : Type} (idOf : String → String) (r : List (String × List α)) : Prop :=
  ((r.filter (fun p => !p.2.isEmpty)).map (fun p => idOf p.1)).Nodup

instance {α : Type} (idOf : String → String) (r : List (String × List α)) : Decidable (distinctIds idOf r) := by
  unfold distinctIds; infer_instance

/-- under `distinctIds` the data holds exactly the views that have members - in the order of the views file,
each under its own id, with its own title and exactly its merchants; for ANY id function. -/
theorem html_sections_eq {α : Type} (idOf : String → String) (r : List (String × List α))
    (h : distinctIds idOf r) :
    htmlSections idOf r = (r.filter (fun p => !p.2.isEmpty)).map (fun p => (idOf p.1, (p.1, p.2))) := by
  have := foldl_setKey_fresh (fun p : String × List α => idOf p.1) (fun p => (p.1, p.2))
    (r.filter (fun p => !p.2.isEmpty)) h
  simpa [htmlSections, List.foldl_filter] using this

/-- the merchants listed under a view's title in the HTML data are the view's members -/
theorem html_members_eq {α : Type} (idOf : String → String) (r : List (String × List α))
    (hk : (r.map (·.1)).Nodup) (h : distinctIds idOf r) (name : String) :
    htmlMembers (htmlSections idOf r) name = members r name := by
  simp only [html_sections_eq idOf r h, htmlMembers, members, List.map_map, Function.comp_def, Prod.eta, List.map_id']
  exact lookup_filter_of_nodup r name hk

/-- Clause 1 at the HTML observation point: under distinct view names and distinct ids, a merchant is listed
under the view's title in `spendingData.sections` iff it is not tagged income / transfer / investment and the
view's filter is true over its own payments. -/
theorem html_member_iff (c : Bool) (o : Oracles) (lower : String → String) (cfg : Config) (n : Nat)
    (ms : List Merchant) (idOf : String → String) (v : Section) (hv : v ∈ cfg.sections)
    (hd : distinctNames cfg.sections) (hid : distinctIds idOf (classifyViews c o lower cfg n ms)) (m : Merchant) :
    m ∈ htmlMembers (htmlSections idOf (classifyViews c o lower cfg n ms)) v.name ↔
      m ∈ ms ∧ excluded lower m = false ∧
        filterTrue c o cfg (periodData n (keptMerchants lower ms)) v (ctxOf m) := by
  rw [html_members_eq idOf _ (by unfold classifyViews; exact keys_classifyMerchants_nodup _ _ _) hid]
  exact member_iff c o lower cfg n ms v hv hd m

/-- every entry of the data is a view that has members, whatever the ids are (nothing is invented) -/
theorem html_sections_sound {α : Type} (idOf : String → String) (r : List (String × List α))
    (e : String × (String × List α)) (he : e ∈ htmlSections idOf r) :
    (e.2.1, e.2.2) ∈ r ∧ e.2.2.isEmpty = false ∧ e.1 = idOf e.2.1 := by
  refine List.foldlRecOn r _ (motive := fun d => ∀ x ∈ d, (x.2.1, x.2.2) ∈ r ∧ x.2.2.isEmpty = false ∧ x.1 = idOf x.2.1)
    (fun _ hx => absurd hx List.not_mem_nil) (fun d hd p hp x hx => ?_) e he
  split at hx
  · exact hd x hx
  · rename_i hne
    rcases mem_setKey hx with h | rfl
    · exact hd x h
    · exact ⟨hp, by simpa using hne, rfl⟩

/-! ### non-vacuity: the hypotheses are satisfiable and the statements are not empty -/

section Examples

def noOracle : Oracles :=
  ⟨⟨fun _ => none, fun _ => none, fun _ _ => none, fun _ _ => none, fun _ _ _ => none,
    fun _ _ => none, fun _ => none, fun _ => none, fun _ _ => none, fun _ _ => none⟩,
   fun _ => none, fun _ => none, fun _ => none⟩

def vMonthly : Section := ⟨"Monthly", .cmp (.name "months") [.mk .ge (.name "need")], [("need", .const (.int 2))]⟩
def vBig : Section := ⟨"Big", .boolop true [.cmp (.name "total") [.mk .gt (.name "limit")],
  .cmp (.const (.str "biz")) [.mk .isIn (.name "tags")]], []⟩
def vBroken : Section := ⟨"Broken", .cmp (.callName "count" [.callName "by" [.const (.str "month")]]) [.mk .ge (.const (.int 1))], []⟩
def cfgEx : Config := ⟨[("limit", .const (.int 100))], [vMonthly, vBig, vBroken]⟩
def mA : Merchant := ⟨"A", "Food", "Grocery", [], [⟨2024, 12, .int 10⟩, ⟨2025, 1, .int 20⟩], .int 30⟩
def mB : Merchant := ⟨"B", "Bills", "", ["Biz"], [⟨2025, 1, .int 500⟩], .int 500⟩
def mC : Merchant := ⟨"C", "Income", "", ["INCOME"], [⟨2024, 12, .int 900⟩, ⟨2025, 1, .int 900⟩], .int 1800⟩

example : distinctNames cfgEx.sections := by decide +kernel
example : vBig ∈ cfgEx.sections := by simp [cfgEx]

deriving instance DecidableEq for Except

/-- B against `vBig`, stage by stage with the tag set brought to a literal first.  Evaluated in one piece, `"biz" in tags`
compares the two computed strings `lowerAscii "biz"` and `lowerAscii "Biz"`; `String.decEq` casts along the proof that their
bytes agree, and with neither side a literal the kernel checks that cast by unfolding the well-founded recursion of
`String.map` on both sides, which is very slow whatever the length of the strings. -/
private theorem mB_vBig :
    holdsE true noOracle cfgEx.globals (periodData 12 (keptMerchants lowerAscii [mA, mB, mC])) (ctxOf mB) vBig = .ok true := by
  have he : View.eval noOracle ⟨ctxOf mB, [("limit", .v (.int 100))], periodData 12 (keptMerchants lowerAscii [mA, mB, mC])⟩
      vBig.filter = .ok (.v (.bool true)) := by
    show View.eval _ _ (.boolop true ([.cmp (.name "total") [.mk .gt (.name "limit")]] ++ [_])) = _
    rw [View.eval, evalBool_append,
      show evalBool noOracle _ true [.cmp (.name "total") [.mk .gt (.name "limit")]] = .ok true by decide +kernel,
      evalBool_singleton,
      eval_in_tags noOracle _ "biz" "tags" "biz" ["biz"] (by decide +kernel) rfl (by decide +kernel) (by decide +kernel)]
    rfl
  rw [holdsE_stages true noOracle vBig _ [("limit", .v (.int 100))] rfl rfl, evalRoot, he]
  rfl

private theorem cfgEx_holds : ∀ m ∈ keptMerchants lowerAscii [mA, mB, mC], ∀ v ∈ cfgEx.sections,
    holdsE true noOracle cfgEx.globals (periodData 12 (keptMerchants lowerAscii [mA, mB, mC])) (ctxOf m) v =
      .ok (decide ((m.name, v.name) ∈ [("A", "Monthly"), ("B", "Big")])) := by
  intro m hm
  simp only [keptMerchants, List.mem_filter, List.mem_cons, List.not_mem_nil, or_false, Bool.not_eq_true'] at hm
  obtain ⟨rfl | rfl | rfl, hex⟩ := hm
  · decide +kernel  -- A
  · intro v hv  -- B, view by view
    simp only [cfgEx, List.mem_cons, List.not_mem_nil, or_false] at hv
    rcases hv with rfl | rfl | rfl
    · decide +kernel
    · exact mB_vBig
    · decide +kernel
  · exact absurd hex (by decide +kernel)  -- C is not kept

example : (classifyViews true noOracle lowerAscii cfgEx 12 [mA, mB, mC]).map (fun kv => (kv.1, kv.2.map (·.name)))
    = [("Monthly", ["A"]), ("Big", ["B"]), ("Broken", [])] := by
  have key : ∀ v ∈ cfgEx.sections, ∀ m ∈ keptMerchants lowerAscii [mA, mB, mC],
      holds true noOracle cfgEx.globals (periodData 12 (keptMerchants lowerAscii [mA, mB, mC])) (ctxOf m) v =
        decide ((m.name, v.name) ∈ [("A", "Monthly"), ("B", "Big")]) :=
    fun v hv m hm => by simp only [holds, cfgEx_holds m hm v hv]
  rw [classifyViews_eq _ _ _ _ _ _ (by decide +kernel),
    List.map_congr_left (fun v hv => congrArg (Prod.mk v.name) (List.filter_congr (key v hv)))]
  decide +kernel
example : excluded lowerAscii mC = true ∧ excluded lowerAscii mA = false := by decide +kernel
-- the reference's own example `count(by("month")) >= 1` compares a list with an int: TypeError inside evaluation
example : (match View.eval noOracle ⟨ctxOf mA, [], []⟩ vBroken.filter with | .error (.py .typeError) => true | _ => false) = true := by
  decide +kernel
example : aborts true noOracle lowerAscii cfgEx 12 [mA, mB, mC] = none :=
  aborts_eq_none (fun m hm v hv => ⟨_, cfgEx_holds m hm v hv⟩)
example : (match sectionTotal [mA, mB] with | .ok (.int i) => i | _ => -1) = 530 := by decide +kernel
example : getMonths ⟨ctxOf mA, [], []⟩ = 2 ∧
    (match getTotal ⟨ctxOf mA, [], []⟩ with | .ok (.int i) => i | _ => -1) = 30 := by decide +kernel
example : monthSet (ctxOf mA) = ["2024-12", "2025-01"] ∧ monthSum "2025-01" (ctxOf mA) = 20 := by decide +kernel
-- a view variable written with an upper-case letter is unreachable (the lookup lower-cases the name)
example : (match holdsE true noOracle [("Limit", .const (.int 100))] [] (ctxOf mB)
    ⟨"Up", .cmp (.name "total") [.mk .gt (.name "Limit")], []⟩ with | .ok b => !b | _ => false) = true := by decide +kernel

-- a global that depends on the merchant only THROUGH another variable: `tot = total`, `is_big = TOT > limit` (reference in another
-- letter case), view `[Big2] filter: is_big` — evaluated per merchant: A (30) is out, B (500) is in
def cfgDerived : Config :=
  ⟨[("limit", .const (.int 100)), ("tot", .name "total"), ("is_big", .cmp (.name "TOT") [.mk .gt (.name "limit")])],
   [⟨"Big2", .name "is_big", []⟩, ⟨"Small2", .unop .not (.name "Is_Big"), []⟩]⟩
example : (classifyViews true noOracle lowerAscii cfgDerived 12 [mA, mB, mC]).map (fun kv => (kv.1, kv.2.map (·.name)))
    = [("Big2", ["B"]), ("Small2", ["A"])] := by decide +kernel

-- `stddev`: one payment ⇒ the int 0; two identical payments whose `statistics.stdev` is +0.0 ⇒ that float (bit pattern 0)
example : (match aggStddev noOracle (.v (.list [.int 5])) with | .ok (.int 0) => true | _ => false) = true := by decide +kernel
example : (match aggStddev { noOracle with stdev := fun _ => some (.ok 0) } (.v (.list [.int 5, .int 5])) with
    | .ok (.flt b) => b == 0 | _ => false) = true := by decide +kernel

-- D12g (recorded observation): with the id function as pinned, `[My View]` and `[my_view]` share the id `my_view`;
-- the later view takes the earlier one's place and the merchant A is listed nowhere in the HTML data
-- (the pinned `name.lower().replace(' ', '_')` written out as a table on the names used here: evaluating `String.map` inside
-- the kernel takes ~45 s per example; the harness observes the real function on the real report)
def idPinned (s : String) : String :=
  if s = "My View" then "my_view" else if s = "Food & Drink" then "food_&_drink"
  else if s = "Food / Drink" then "food_/_drink" else if s = "Empty" then "empty" else s
example : ¬ distinctIds idPinned [("My View", ["A"]), ("my_view", ["B"])] := by decide +kernel
example : htmlSections idPinned [("My View", ["A"]), ("my_view", ["B"])] = [("my_view", ("my_view", ["B"]))] := by decide +kernel
example : htmlMembers (htmlSections idPinned [("My View", ["A"]), ("my_view", ["B"])]) "My View" = [] := by decide +kernel
-- … while names that differ in punctuation, or have no ASCII letter at all, keep their own entries
example : distinctIds idPinned [("Food & Drink", ["A"]), ("Food / Drink", ["B"]), ("食費", ["C"]), ("光熱費", ["D"]), ("Empty", [])] := by
  decide +kernel
example : htmlSections idPinned [("Food & Drink", ["A"]), ("Empty", []), ("食費", ["C"])] =
    [("food_&_drink", ("Food & Drink", ["A"])), ("食費", ("食費", ["C"]))] := by decide +kernel

end Examples

end TallyVerif.Props.C10
