import TallyVerif.Lemmas.FsKeeps
/-!
# C20 — commands never alter or overwrite the user's statements, rules or settings

* `readonly_frame` / `up_frame`: for ARBITRARY file systems, `tally up` (without `--migrate`, non-interactive)
  changes nothing outside its output location (`output/`, `output/spending_summary.html`); `explain`,
  `discover`, `diag`, `inspect` and `up --format summary|json|markdown` have an empty write-set in the model
  (that the real commands have one too is the audit-hook tie in harness/props/c20.py).
* `migration_only_on_request`: without `--migrate` the rule-loading step performs no file-system event.
* `init_frame`: `tally init` in a folder that already has files keeps every one of them — same content at the
  same path, settings.yaml possibly extended by appended lines, the legacy CSV possibly moved to a *fresh*
  backup name — over all 480 budget shapes, for the repaired migration; for the code as it is the same holds
  except when a `.bak` already exists (`D15c_init_clobbers_bak`, `init_frame_impl_partial`).
* `settings_append_only`: `init` / `up --migrate` leave settings.yaml as `old content ++ appended lines` (all shapes, both variants).
The statements about `tally init` and settings.yaml are instances of theorems about ARBITRARY trees in Lemmas/FsKeeps.lean
(`complete_init_keeps`, `complete_extends_settings`, `init_settles` / `init_of_settled`), whose hypotheses — no name twice,
`merchants.rules.tmp` and a backup name free — the budget shapes meet (`keys_fsWith`).
PARTIAL: argparse / runtime glue and OS durability are outside the model.
-/
namespace TallyVerif.Fs
variable {κ : Type}

/-- where `tally up` may write: the output directory of the budget it found, and the report in it -/
def outputPaths (fs : FS κ) : List Path :=
  match findConfigDir fs with
  | none => []
  | some loc => [⟨loc, .outputDir⟩, ⟨loc, .report⟩]

/-- parents exist: a budget under `./tally` implies the directory `./tally` -/
def WF (fs : FS κ) : Prop := isDir fs ⟨.tally, .configDir⟩ = true → pathExists fs ⟨.top, .tallyDir⟩ = true

/-- C20 "rule migration changes files only when explicitly requested": non-interactive `tally up` without
    `--migrate` performs no file-system event while loading the rules, whatever the budget looks like. -/
theorem migration_only_on_request (v : CsvVariant) (m : M κ) : (upRules v false m).1 = m :=
  (upRules_fst v false m).resolve_right fun h => nomatch h.1

/-- C20 read-only frame for `tally up` (HTML report, no `--migrate`): every path outside the output location
    keeps its node, for an arbitrary well-formed file system and arbitrary contents. -/
theorem up_frame (v : CsvVariant) (html : Bool) (fs : FS κ) (hwf : WF fs) (q : Path) (hq : q ∉ outputPaths fs) :
    lookup (cmdUp v false html (start fs)).m.fs q = lookup fs q := by
  -- the invariant "the node at `q` is that of `fs`" survives a write anywhere else
  have W : ∀ {p}, q ≠ p → Writable (fun x => lookup x q = lookup fs q) p := fun hp => .lookup_eq hp _
  have hw : ∀ loc, findConfigDir fs = some loc → Creatable (fun x => lookup x q = lookup fs q) ⟨loc, .outputDir⟩ ∧
      (loc = .tally → Creatable (fun x => lookup x q = lookup fs q) ⟨.top, .tallyDir⟩) ∧
      Writable (fun x => lookup x q = lookup fs q) ⟨loc, .report⟩ := by
    intro loc hloc
    have hq' : q ≠ ⟨loc, .outputDir⟩ ∧ q ≠ ⟨loc, .report⟩ := by simpa [outputPaths, hloc] using hq
    refine ⟨(W hq'.1).creatable, ?_, W hq'.2⟩
    rintro rfl x n hx hn
    by_cases hqt : q = ⟨.top, .tallyDir⟩
    · -- `./tally` is not created: it is there, by `WF`
      have : isDir fs ⟨.tally, .configDir⟩ = true := by
        unfold findConfigDir at hloc
        split at hloc
        · cases hloc
        · split at hloc
          · assumption
          · cases hloc
      have := hwf this
      rw [← hqt, hx] at hn
      simp [pathExists, ← hqt, hn] at this
    · exact ((W hqt) x hx).1 n
  obtain ⟨m', -, e, -, g, -⟩ :=
    Ends.cmdUp (C := fun _ => True) v false html (fun h => nomatch h) hw (fun _ _ => trivial) rfl (start fs) rfl ⟨rfl, rfl⟩
  rw [e]
  exact g

/-- C20 read-only frame: `explain`, `discover`, `diag`, `inspect` (and `up` with a text format) leave every path
    unchanged; `up` leaves every path outside the output location unchanged. -/
theorem readonly_frame (v : Variants) (p : Prog) (hp : p = .readOnly ∨ p = .up) (fs : FS κ) (hwf : WF fs)
    (q : Path) (hq : q ∉ outputPaths fs) : lookup (complete v p fs).fs q = lookup fs q := by
  rcases hp with hp | hp <;> subst hp
  · rfl
  · exact up_frame v.csv true fs hwf q hq

/-! ## `tally init` -/

section Init
variable [DecidableEq κ]

def isCsvBackup (r : Rel) : Bool := r = .csvBak || r = .csvBak1 || r = .csvBak2

/-- every node of `fs₀` is kept by `fs`: same content at the same path, or settings.yaml with lines appended, or the
    legacy CSV moved to a backup name that was free -/
def initFrameB (fs₀ fs : FS κ) : Bool :=
  fs₀.all fun e =>
    match e.2 with
    | .dir => isDir fs e.1
    | .file c =>
      decide (fileAt fs e.1 = some c) ||
      (decide (e.1.rel = .settings) && c.isPrefixOf ((fileAt fs e.1).getD [])) ||
      (decide (e.1.rel = .csv) && !pathExists fs e.1 &&
        fs.any fun e' => isCsvBackup e'.1.rel && decide (e'.1.loc = e.1.loc) && decide (e'.2 = .file c) &&
                         !pathExists fs₀ e'.1)

/-- what `init` adds is only starter / migrated material at paths that did not exist -/
def createsOnlyMissingB (fs₀ fs : FS κ) : Bool :=
  fs.all fun e => pathExists fs₀ e.1 || !(fs₀.any fun e₀ => decide (e₀.1 = e.1))

end Init

private theorem initFrameB_of_keeps [DecidableEq κ] {loc : Loc} {fs₀ fs : FS κ} (hk : Once fs₀)
    (h : InitKeeps loc fs₀ fs) : initFrameB fs₀ fs = true := by
  refine List.all_eq_true.mpr fun ⟨q, n⟩ he => ?_
  dsimp only
  rcases h.node (hk _ he) with e | ⟨rfl, c, t, rfl, e⟩ | ⟨rfl, b, c, hb, rfl, hf, e1, e2⟩
  · cases n <;> simp [isDir, fileAt, e]
  · simp [fileAt, e]
  · have hb' : isCsvBackup b = true := (by decide : ∀ b ∈ csvBackups, isCsvBackup b = true) b hb
    simp only [pathExists, e1, Option.isSome_none, Bool.not_false, decide_true, Bool.true_and, Bool.or_eq_true]
    exact .inr (List.any_eq_true.mpr ⟨_, mem_of_lookup e2, by simp [hb', hf]⟩)

/-- `tally init` on a budget shape, with or without a `.gitignore` of the user's: the hypotheses of `complete_init_keeps` hold when
    the migration looks for a free backup name (a shape has no `.bak.1`) or there is no `.bak` -/
private theorem init_frame_shape (v : Variants) (s : Shape) (g : Bool) (hv : v.csv.fresh = true ∨ s.csvBak = false) :
    initFrameB (s.fsWith g id : FS Sym) (complete v .init (s.fsWith g id)).fs = true := by
  refine initFrameB_of_keeps (loc := .top) (s.once g id) ?_
  exact complete_init_keeps v rfl fun _ => ⟨s.absent g id (by cases s.csvBak <;> decide), s.backupFree g id hv⟩

/-- C20 `init` frame, repaired migration: over all budget shapes every existing file is kept (settings may only gain
    appended lines; the CSV may move to a fresh backup name). -/
theorem init_frame (s : Shape) :
    initFrameB (s.fs id : FS Sym) (complete .repaired .init (s.fs id)).fs = true := by
  have := init_frame_shape .repaired s false (.inl rfl)
  rwa [s.fsWith_false] at this

/-- the same for the code as it is, except when a `.bak` is already there (full statement false: next theorem) -/
theorem init_frame_impl_partial (s : Shape) (h : s.csvBak = false) :
    initFrameB (s.fs id : FS Sym) (complete .impl .init (s.fs id)).fs = true := by
  have := init_frame_shape .impl s false (.inr h)
  rwa [s.fsWith_false] at this

/-- **D15c via init**: `tally init` on a legacy budget that already has `merchant_categories.csv.bak` replaces it. -/
theorem D15c_init_clobbers_bak :
    initFrameB ((⟨.plain, .withRules, false, true, false, false, true⟩ : Shape).fs id : FS Sym)
      (complete .impl .init ((⟨.plain, .withRules, false, true, false, false, true⟩ : Shape).fs id)).fs = false := by
  decide +kernel

/-- C20 `init` "creates only what is missing": once everything is there, `init` performs its three
    `os.makedirs(…, exist_ok=True)` calls and nothing else, and the tree is unchanged. -/
theorem init_creates_only_missing (s : Shape) :
    (complete .repaired .init (complete .repaired .init (s.fs id : FS Sym)).fs).n = 3 ∧
    (complete .repaired .init (complete .repaired .init (s.fs id : FS Sym)).fs).fs
      = (complete .repaired .init (s.fs id : FS Sym)).fs :=
  init_of_settled .repaired (init_settles .repaired rfl)

/-- what `initFrameB` says of a file that is neither settings.yaml nor the legacy CSV: it is still there, same content -/
private theorem initFrameB_keeps [DecidableEq κ] {fs₀ fs : FS κ} (h : initFrameB fs₀ fs = true) {p : Path} {c : Content κ}
    (hm : (p, Node.file c) ∈ fs₀) (h1 : p.rel ≠ .settings) (h2 : p.rel ≠ .csv) : fileAt fs p = some c := by
  have := List.all_eq_true.mp h _ hm
  simpa [h1, h2] using this

/-- C20 `init` "keeps each of them" in a folder that also holds a file which is NOT one of tally's rules / settings / statements: with a
    `.gitignore` of the user's (any content — the model does not look inside), over all budget shapes, `tally init` keeps every existing
    file (settings may only gain appended lines; the CSV may move to a fresh backup name). -/
theorem init_frame_with_gitignore (s : Shape) :
    initFrameB (s.fsWith true id : FS Sym) (complete .repaired .init (s.fsWith true id)).fs = true :=
  init_frame_shape .repaired s true (.inl rfl)

/-- … the `.gitignore` included: `init` leaves it byte-identical (it is not appended to, unlike settings.yaml). -/
theorem init_keeps_gitignore (s : Shape) :
    fileAt (complete .repaired .init (s.fsWith true id : FS Sym)).fs ⟨.top, .gitignore⟩ = some [.orig .gitignore { kind := .other }] := by
  apply initFrameB_keeps (init_frame_with_gitignore s)
  · simp [Shape.fsWith, optFile]
  · decide
  · decide

/-- the read-only commands and `up` in such a folder: `readonly_frame` is about arbitrary file systems, so the user's `.gitignore`
    (and a `views_file:` reference to a file that does not exist) is covered; spelled out for the record -/
theorem readonly_keeps_gitignore (v : Variants) (p : Prog) (hp : p = .readOnly ∨ p = .up) (s : Shape) (g : Bool) :
    lookup (complete v p (s.fsWith g id : FS Sym)).fs ⟨.top, .gitignore⟩ = lookup (s.fsWith g id : FS Sym) ⟨.top, .gitignore⟩ := by
  apply readonly_frame v p hp
  · intro h
    have : lookup (s.fsWith g id : FS Sym) ⟨.tally, .configDir⟩ = none :=
      s.absent g id (by cases s.csvBak <;> decide)
    simp [isDir, this] at h
  · unfold outputPaths
    split
    · simp
    · simp only [List.mem_cons, List.not_mem_nil, or_false, not_or]
      constructor <;> (intro h; cases h)

/-! non-vacuity -/
example : fileAt ((⟨.plain, .absent, true, false, false, false, true⟩ : Shape).fsWith true id : FS Sym) ⟨.top, .gitignore⟩
    = some [.orig .gitignore { kind := .other }] := by decide
example : WF ((⟨.plain, .withRules, false, false, false, false, true⟩ : Shape).fs id : FS Sym) := by
  intro h; revert h; decide
example : (⟨.top, .settings⟩ : Path) ∉ outputPaths ((⟨.plain, .withRules, false, false, false, false, true⟩ : Shape).fs id : FS Sym) := by
  decide


/-! ## settings.yaml is only ever appended to -/


/-- a chunk that is one of the lines tally appends to settings.yaml (`merchants_file:` / `views_file:` and their comments) -/
def isLineChunk : Chunk Sym → Bool
  | .line _ => true
  | _ => false

/-- C20 "settings.yaml may only gain appended lines", as an equation: for `tally init` and `tally up --migrate` (code as it is and
    repaired migration), over all budget shapes, new content of settings.yaml = old content ++ t, where t consists of the lines tally
    appends (`merchants_file:` / `views_file:` with their comments) and nothing else — the old content is never re-written. The model
    holds contents symbolically; that the real commands leave the old BYTES as a prefix whatever their form (CRLF, BOM, no final
    newline …) is the byte-level oracle of harness/props/c20.py. -/
theorem settings_append_only (cv : CsvVariant) (hcv : cv = .impl ∨ cv = .repaired) (lv : LayoutVariant) (p : Prog)
    (hp : p = .init ∨ p = .upMigrateHtml) (s : Shape) (c : Content Sym) (h : fileAt (s.fs id : FS Sym) ⟨.top, .settings⟩ = some c) :
    ∃ t, fileAt (complete ⟨cv, lv⟩ p (s.fs id)).fs ⟨.top, .settings⟩ = some (c ++ t) ∧ t.all isLineChunk = true := by
  obtain ⟨t, ht, hl⟩ := complete_extends_settings ⟨cv, lv⟩ (show p ≠ .layout by rcases hp with rfl | rfl <;> decide) h
  exact ⟨t, ht, List.all_eq_true.mpr fun ch hch => by obtain ⟨l, rfl⟩ := hl ch hch; rfl⟩

/-- non-vacuity: a legacy budget; `tally init` appends four lines (merchants_file + views_file, each with its comment) -/
example : fileAt (complete .repaired .init ((⟨.plain, .withRules, false, false, false, false, true⟩ : Shape).fs id : FS Sym)).fs ⟨.top, .settings⟩
    = some ([.orig .settings (settingsMeta .plain false)] ++ [.line .mfComment, .line .mfKey, .line .vfComment, .line .vfKey]) := by
  decide +kernel

end TallyVerif.Fs
