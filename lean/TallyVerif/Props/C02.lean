/-
C02 — tags are the union over all matching rules; tag-only rules never categorise.

Same model as C01 (`Rules.matchEngine`, `Rules.legacy`), arbitrary per-rule evaluation `ev`
(so `(ev r).tags` is whatever `_resolve_tags` produced for rule `r`: static tags lower-cased,
`{expr}` tags evaluated, empty ones dropped — that part is tied by correspondence).
-/
import TallyVerif.Props.C01

namespace TallyVerif.Props.C02
open TallyVerif.Rules TallyVerif.Props.C01

/-- a tag is in the result exactly when some matching rule (categorising or tag-only, anywhere
in the file, either mode) resolves to it -/
theorem tags_iff (fix : Bool) (key : Rule → Key) (ev : Rule → Eval) (mode : Mode) (rs : List Rule)
    (t : String) :
    t ∈ (matchEngine fix key ev mode rs).tags ↔ ∃ r ∈ rs, (ev r).hit = true ∧ t ∈ (ev r).tags := by
  simp only [matchEngine, finish_tags, runLoop_tags, mem_dedupe, List.mem_flatMap, List.mem_filter, and_assoc]

/-- each tag is reported once -/
theorem tags_nodup (fix : Bool) (key : Rule → Key) (ev : Rule → Eval) (mode : Mode) (rs : List Rule) :
    (matchEngine fix key ev mode rs).tags.Nodup := by
  simp only [matchEngine, finish_tags, runLoop_tags, dedupe_nodup]

/-- the tag list does not depend on the matching mode -/
theorem tags_mode_indep (fix : Bool) (key : Rule → Key) (ev : Rule → Eval) (rs : List Rule) :
    (matchEngine fix key ev .firstMatch rs).tags = (matchEngine fix key ev .mostSpecific rs).tags := by
  simp only [matchEngine, finish_tags]

/-- the tag SET does not depend on the order of the rules -/
theorem tags_perm (fix : Bool) (key : Rule → Key) (ev : Rule → Eval) (mode mode' : Mode)
    {rs rs' : List Rule} (p : rs.Perm rs') (t : String) :
    t ∈ (matchEngine fix key ev mode rs).tags ↔ t ∈ (matchEngine fix key ev mode' rs').tags := by
  simp only [tags_iff, p.mem_iff]

/-- first-match mode: a rule without category, inserted anywhere, never changes
merchant/category/subcategory -/
theorem tagonly_neutral_first (fix : Bool) (key : Rule → Key) (ev : Rule → Eval)
    (pre post : List Rule) (r : Rule) (h : r.category = "") :
    mcs (matchEngine fix key ev .firstMatch (pre ++ r :: post)) =
      mcs (matchEngine fix key ev .firstMatch (pre ++ post)) := by
  have hw : wins ev r = false := by simp [wins, Rule.isCat, h]
  simp only [fun rs => (first_match_spec fix key ev rs).2.2, List.find?_append_cons_skip hw]

/-- most_specific mode, code with the D2 repair (`fix = true`): a rule that sets neither category
nor subcategory, inserted anywhere, never changes merchant/category/subcategory.
(Reading note, DESIGN.md §5 C02: a tag-only rule WITH a subcategory is the overlap between C02
and C09's "subcategory from the highest-ranked matching rule that sets one"; it is not claimed.) -/
theorem tagonly_neutral_specific (key : Rule → Key) (ev : Rule → Eval)
    (pre post : List Rule) (r : Rule) (h : r.category = "") (hs : r.subcategory = "") :
    mcs (matchEngine true key ev .mostSpecific (pre ++ r :: post)) =
      mcs (matchEngine true key ev .mostSpecific (pre ++ post)) := by
  -- `r` fails the test of each of the three lists a winner is taken from
  have hmer : (fun r : Rule => r.hasMerchant && (!true || r.isCat)) r = false := by simp [Rule.isCat, h]
  have hcat : Rule.isCat r = false := by simp [Rule.isCat, h]
  have hsub : Rule.hasSub r = false := by simp [Rule.hasSub, hs]
  simp only [mcs, matchEngine, finish_mostSpecific, runLoop_matching]
  rw [List.filter_filter_append_cons_skip r hmer, List.filter_filter_append_cons_skip r hcat,
    List.filter_filter_append_cons_skip r hsub]

/-- The code AS PINNED (`fix = false`) violates the clause in most_specific mode: the merchant is
taken from all matching rules, and every rule has a merchant (it defaults to the rule name).
Witness of DESIGN.md §6 D2. -/
theorem tagonly_changes_merchant_unfixed :
    let cat : Rule := ⟨1, "Cat", "Cat", "X", "", 50, "contains(\"A\")"⟩
    let tag : Rule := ⟨5, "Tag", "Tag", "", "", 50, "contains(\"A\") and amount > 0"⟩
    let key : Rule → Key := fun r => if r.line == 1 then ⟨50, 1, 0, 1⟩ else ⟨50, 1, 1, 1⟩
    let ev : Rule → Eval := fun r => ⟨true, if r.line == 5 then ["t"] else [], []⟩
    mcs (matchEngine false key ev .mostSpecific [cat, tag]) = ("Tag", "X", "") ∧
    mcs (matchEngine false key ev .mostSpecific [cat]) = ("Cat", "X", "") ∧
    mcs (matchEngine true key ev .mostSpecific [cat, tag]) = ("Cat", "X", "") := by
  decide +kernel

/-- legacy loop: the tags are the de-duplicated concatenation of the tags of every matching rule -/
theorem legacy_tags_spec (ev : LRule → LEval) (fallback : String) (rs : List LRule) :
    (legacy ev fallback rs).tags =
      dedupe ((rs.filter (fun r => (ev r).outcome == .matched)).flatMap (fun r => (ev r).tags)) := by
  simp only [legacy, lfold_allTags]
  cases (rs.foldl (lstep ev) { first := none, allTags := [], tagSources := [] }).first <;> rfl

theorem legacy_tags_iff (ev : LRule → LEval) (fallback : String) (rs : List LRule) (t : String) :
    t ∈ (legacy ev fallback rs).tags ↔ ∃ r ∈ rs, (ev r).outcome = .matched ∧ t ∈ (ev r).tags := by
  simp only [legacy_tags_spec, mem_dedupe, List.mem_flatMap, List.mem_filter, beq_iff_eq, and_assoc]

/-- legacy loop: a tuple without category never changes merchant/category/subcategory -/
theorem legacy_tagonly_neutral (ev : LRule → LEval) (fallback : String) (pre post : List LRule) (r : LRule)
    (h : r.category = "") :
    let a := legacy ev fallback (pre ++ r :: post); let b := legacy ev fallback (pre ++ post)
    (a.merchant, a.category, a.subcategory) = (b.merchant, b.category, b.subcategory) := by
  have hw : lwins ev r = false := by simp [lwins, h]
  simp only [fun rs => (legacy_first_match_spec ev fallback rs).2, List.find?_append_cons_skip hw]

/-! ### non-vacuity (same example file as C01) -/
example : (matchEngine true keyEx evEx .mostSpecific [rTag, rCat1, rMiss, rCat2]).tags = ["t", "u", "v"] := by
  decide +kernel
example : ∃ r ∈ [rTag, rCat1, rMiss, rCat2], (evEx r).hit = true ∧ "v" ∈ (evEx r).tags :=
  ⟨rCat2, by decide +kernel⟩

end TallyVerif.Props.C02
