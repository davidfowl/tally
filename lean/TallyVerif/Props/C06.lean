/-
C06 — totals conserve money: each transaction is counted once, in exactly one bucket.

Model: `Totals.analyze` (hand model of the loop in `analyzer.analyze_transactions`, tied by
correspondence) over the GENERATED `Gen.ClassPy.categorize_amount` / `normalize_amount`
(regenerated from `classification.py` on every run).  Amounts are exact (`intNum`: integer cents);
float rounding is modelled away (DESIGN.md §3).  `lower` is arbitrary.
-/
import TallyVerif.Lemmas.TotalsInt
import TallyVerif.Lemmas.ClassSets

namespace TallyVerif.Props.C06
open TallyVerif TallyVerif.Totals TallyVerif.Gen

abbrev N := intNum
abbrev T := Txn Int
inductive Bucket | income | investment | transferIn | transferOut | spending | credits
deriving DecidableEq, Repr
def zeroB : Buckets Int := ⟨0, 0, 0, 0, 0, 0⟩
def single (b : Bucket) (v : Int) : Buckets Int :=
  match b with
  | .income => { zeroB with income := v }
  | .investment => { zeroB with investment := v }
  | .transferIn => { zeroB with transfer_in := v }
  | .transferOut => { zeroB with transfer_out := v }
  | .spending => { zeroB with spending := v }
  | .credits => { zeroB with credits := v }
def choice (tagsLower : List String) (a : Int) : Bucket :=
  if tagsLower.contains "income" then .income
  else if tagsLower.contains "investment" then .investment
  else if tagsLower.contains "transfer" then (if a > 0 then .transferIn else .transferOut)
  else (if a > 0 then .spending else .credits)
def absI (a : Int) : Int := if a < 0 then -a else a

/-- exactly one bucket receives |amount|; which one is decided only by tag precedence
(income > investment > transfer, on lower-cased tags) and by the sign -/
theorem one_bucket (lower : String → String) (a : Int) (tags : Option (List String)) :
    ClassPy.categorize_amount N lower a tags = single (choice ((orEmpty tags).map lower) a) (absI a) := by
  simp only [ClassPy.categorize_amount, ClassPy.get_tags_lower, ClassPy.INCOME_TAG,
    ClassPy.INVESTMENT_TAG, ClassPy.TRANSFER_TAG, choice]
  generalize (List.map lower (orEmpty tags)) = tl
  by_cases h1 : "income" ∈ tl
  · simp [h1, single, zeroB, absI]
  · by_cases h2 : "investment" ∈ tl
    · simp [h1, h2, single, zeroB, absI]
    · by_cases h3 : "transfer" ∈ tl <;> by_cases h4 : a > 0 <;>
        simp [h1, h2, h3, h4, single, zeroB, absI] <;> omega

/-- the six bucket values of one transaction add up to |amount| -/
theorem buckets_sum_abs (lower : String → String) (a : Int) (tags : Option (List String)) :
    (ClassPy.categorize_amount N lower a tags).income + (ClassPy.categorize_amount N lower a tags).investment
     + (ClassPy.categorize_amount N lower a tags).transfer_in + (ClassPy.categorize_amount N lower a tags).transfer_out
     + (ClassPy.categorize_amount N lower a tags).spending + (ClassPy.categorize_amount N lower a tags).credits = absI a := by
  rw [one_bucket]; cases choice ((orEmpty tags).map lower) a <;> simp [single, zeroB]

/-- the first non-zero bucket: a left inverse of `single · v` for `v ≠ 0` -/
def nonzeroBucket (x : Buckets Int) : Bucket :=
  if x.income ≠ 0 then .income else if x.investment ≠ 0 then .investment
  else if x.transfer_in ≠ 0 then .transferIn else if x.transfer_out ≠ 0 then .transferOut
  else if x.spending ≠ 0 then .spending else .credits

private theorem nonzeroBucket_single (b : Bucket) {v : Int} (hv : v ≠ 0) : nonzeroBucket (single b v) = b := by
  cases b <;> simp [nonzeroBucket, single, zeroB, hv]

/-- when the amount is non-zero exactly one bucket is non-zero -/
theorem exactly_one_nonzero (lower : String → String) (a : Int) (tags : Option (List String)) (ha : a ≠ 0) :
    ∃ b : Bucket, ClassPy.categorize_amount N lower a tags = single b (absI a) ∧ absI a ≠ 0 ∧
      ∀ b', ClassPy.categorize_amount N lower a tags = single b' (absI a) → b' = b := by
  have hz : absI a ≠ 0 := by unfold absI; split <;> omega
  refine ⟨_, one_bucket lower a tags, hz, fun b' h => ?_⟩
  rw [← nonzeroBucket_single b' hz, ← h, one_bucket, nonzeroBucket_single _ hz]

/-- normalised amount: |a| for income / investment, raw otherwise -/
theorem normalize_spec (lower : String → String) (a : Int) (tags : Option (List String)) :
    ClassPy.normalize_amount N lower a tags =
      if ((orEmpty tags).map lower).contains "income" || ((orEmpty tags).map lower).contains "investment"
      then absI a else a := rfl

/-- "chosen ONLY by whether its tags contain income, investment or transfer": two tag lists that agree on the
membership of each of the three words (after lower-casing) give the same buckets, whatever else they contain -/
theorem bucket_only_by_membership (lower : String → String) (a : Int) (tags tags' : Option (List String))
    (hi : ((orEmpty tags).map lower).contains "income" = ((orEmpty tags').map lower).contains "income")
    (hv : ((orEmpty tags).map lower).contains "investment" = ((orEmpty tags').map lower).contains "investment")
    (ht : ((orEmpty tags).map lower).contains "transfer" = ((orEmpty tags').map lower).contains "transfer") :
    ClassPy.categorize_amount N lower a tags = ClassPy.categorize_amount N lower a tags' :=
  ClassPy.categorize_amount_congr N a hi ht hv

/-- a tag whose lower-cased text is not EXACTLY one of the three words (`income-tax`, ` income`, `transfers`,
`İncome` …) is ordinary: adding it anywhere changes neither the bucket nor the normalised amount -/
theorem ordinary_tag_neutral (lower : String → String) (a : Int) (t : String) (pre post : List String)
    (h1 : lower t ≠ "income") (h2 : lower t ≠ "investment") (h3 : lower t ≠ "transfer") :
    ClassPy.categorize_amount N lower a (some (pre ++ t :: post)) = ClassPy.categorize_amount N lower a (some (pre ++ post)) ∧
    ClassPy.normalize_amount N lower a (some (pre ++ t :: post)) = ClassPy.normalize_amount N lower a (some (pre ++ post)) := by
  have same : ∀ w : String, lower t ≠ w →
      ((orEmpty (some (pre ++ t :: post))).map lower).contains w = ((orEmpty (some (pre ++ post))).map lower).contains w := by
    intro w hw
    simp [orEmpty, hw.symm]
  exact ⟨ClassPy.categorize_amount_congr N a (same "income" h1) (same "transfer" h3) (same "investment" h2),
    ClassPy.normalize_amount_congr N a (same "income" h1) (same "investment" h2)⟩

/-- the `eff` and `cat` of `Totals.step`: what one transaction adds to the dictionaries, and to the six bucket totals -/
def eff (lower : String → String) (t : T) : Int := ClassPy.normalize_amount N lower t.amount t.tags
def cat (lower : String → String) (t : T) : Buckets Int := ClassPy.categorize_amount N lower t.amount t.tags

/-- the scalar figures of `Stats` (all but the three dictionaries): `flowOf` reads them off, `flowSpec` says what they are -/
structure Flow where
  income : Int
  spending : Int
  credits : Int
  transfersIn : Int
  transfersOut : Int
  investment : Int
  count : Nat
  total : Int
deriving DecidableEq

def flowOf (s : Stats Int) : Flow :=
  ⟨s.income, s.spending, s.credits, s.transfersIn, s.transfersOut, s.investment, s.count, s.total⟩

def flowSpec (lower : String → String) (l : List T) : Flow :=
  ⟨sumBy (fun t => (cat lower t).income) l, sumBy (fun t => (cat lower t).spending) l,
   sumBy (fun t => (cat lower t).credits) l, sumBy (fun t => (cat lower t).transfer_in) l,
   sumBy (fun t => (cat lower t).transfer_out) l, sumBy (fun t => (cat lower t).investment) l,
   l.length, sumBy (fun t => t.amount) l⟩

def Flow.add (a b : Flow) : Flow :=
  ⟨a.income + b.income, a.spending + b.spending, a.credits + b.credits, a.transfersIn + b.transfersIn,
   a.transfersOut + b.transfersOut, a.investment + b.investment, a.count + b.count, a.total + b.total⟩

private theorem fold_flow (lower : String → String) (l : List T) (s : Stats Int) :
    flowOf (l.foldl (step N lower) s) = (flowOf s).add (flowSpec lower l) := by
  induction l generalizing s with
  | nil => simp [flowOf, Flow.add, flowSpec]
  | cons t l ih =>
    rw [List.foldl_cons, ih]
    simp only [flowOf, Flow.add, flowSpec, step, sumBy_cons, cat, N, intNum, List.length_cons, Int.add_assoc,
      Nat.add_assoc, Nat.add_comm 1]

theorem flow_totals (lower : String → String) (l : List T) :
    flowOf (analyze N lower l) = flowSpec lower l := by
  unfold analyze; rw [fold_flow]; simp [init, flowOf, Flow.add, N, intNum]

/-- income + investment + transfers in + transfers out + spending + credits = Σ |amountᵢ| -/
theorem six_buckets_sum (lower : String → String) (l : List T) :
    (analyze N lower l).income + (analyze N lower l).investment + (analyze N lower l).transfersIn
      + (analyze N lower l).transfersOut + (analyze N lower l).spending + (analyze N lower l).credits
      = sumBy (fun t => absI t.amount) l := by
  obtain ⟨hInc, hSpend, hCred, hIn, hOut, hInv, -, -⟩ := Flow.mk.inj (flow_totals lower l)
  rw [hInc, hInv, hIn, hOut, hSpend, hCred]
  simp only [← sumBy_add]
  exact congrArg (sumBy · l) (funext fun t => buckets_sum_abs lower t.amount t.tags)

theorem cash_flow_def (lower : String → String) (s : Stats Int) :
    cashFlow N lower s = s.income - s.spending + s.credits := rfl

theorem transfers_net_def (lower : String → String) (s : Stats Int) :
    transfersNet N lower s = s.transfersIn - s.transfersOut := rfl

def gCount (lower : String → String) (t : T) : Nat × Int → Nat × Int := fun p => (p.1 + 1, p.2 + eff lower t)

/- The three dictionaries: `step` computes each from its own old value alone, by the `upsert` that `accumFrom` folds
(the `rfl`), and `init` has it empty; `foldl_hom` takes the projection through the fold of `analyze`. -/
theorem by_merchant_def (lower : String → String) (l : List T) :
    (analyze N lower l).byMerchant = accumFrom (fun t : T => t.merchant) (0, 0) (gCount lower) [] l :=
  (List.foldl_hom Stats.byMerchant fun _ _ => rfl).symm

theorem by_category_def (lower : String → String) (l : List T) :
    (analyze N lower l).byCategory =
      accumFrom (fun t : T => (t.category, t.subcategory)) (0, 0) (gCount lower) [] l :=
  (List.foldl_hom Stats.byCategory fun _ _ => rfl).symm

theorem by_month_def (lower : String → String) (l : List T) :
    (analyze N lower l).byMonth = accumFrom (fun t : T => t.month) 0 (fun t x => x + eff lower t) [] l :=
  (List.foldl_hom Stats.byMonth fun _ _ => rfl).symm

/-- per-merchant, per-category and per-month totals each add up to the same grand total
(Σ normalised amounts), and the counts to the number of transactions -/
theorem groupings_conserve (lower : String → String) (l : List T) :
    sumTotals (analyze N lower l).byMerchant = sumBy (eff lower) l ∧
    sumTotals (analyze N lower l).byCategory = sumBy (eff lower) l ∧
    sumVals (analyze N lower l).byMonth = sumBy (eff lower) l ∧
    sumCounts (analyze N lower l).byMerchant = l.length ∧
    sumCounts (analyze N lower l).byCategory = l.length ∧
    (analyze N lower l).count = l.length := by
  have tot {κ : Type} [BEq κ] (key : T → κ) : sumTotals (accumFrom key (0, 0) (gCount lower) [] l) = sumBy (eff lower) l :=
    sumBy_accumFrom (fun v : Nat × Int => v.2) (eff lower) key _ _ (fun _ => Int.zero_add _) (fun _ _ => rfl) l
  have cnt {κ : Type} [BEq κ] (key : T → κ) : sumCounts (accumFrom key (0, 0) (gCount lower) [] l) = l.length :=
    sumCounts_accumFrom key _ _ (fun _ => rfl) (fun _ _ => rfl) l
  rw [by_merchant_def, by_category_def, by_month_def]
  refine ⟨tot _, tot _, ?_, cnt _, cnt _, ?_⟩
  · exact sumBy_accumFrom id (eff lower) _ _ _ (fun _ => Int.zero_add _) (fun _ _ => rfl) l
  · exact (congrArg Flow.count (flow_totals lower l) :)

/-- `total_transactions` (Σ merchant totals) is that same grand total -/
theorem total_transactions_def (lower : String → String) (l : List T) :
    totalTransactions N (analyze N lower l) = sumBy (eff lower) l :=
  (groupings_conserve lower l).1

private theorem gCount_comm (lower : String → String) (x y : T) (z : Nat × Int) :
    gCount lower y (gCount lower x z) = gCount lower x (gCount lower y z) :=
  -- both sides are `(z.1 + 1 + 1, z.2 + eff · + eff ·)`
  congrArg (Prod.mk _) (Int.add_right_comm z.2 (eff lower x) (eff lower y))

/-- Every figure is unchanged by permuting the transactions: the scalar totals, and each
dictionary as a map (`lookup` of every key). -/
theorem analyze_perm (lower : String → String) {l l' : List T} (p : l.Perm l') :
    flowOf (analyze N lower l) = flowOf (analyze N lower l') ∧
    (∀ k, (analyze N lower l).byMerchant.lookup k = (analyze N lower l').byMerchant.lookup k) ∧
    (∀ k, (analyze N lower l).byCategory.lookup k = (analyze N lower l').byCategory.lookup k) ∧
    (∀ k, (analyze N lower l).byMonth.lookup k = (analyze N lower l').byMonth.lookup k) := by
  refine ⟨?_, ?_, ?_, ?_⟩
  · simp only [flow_totals, flowSpec, sumBy_perm _ p, p.length_eq]
  · intro k; rw [by_merchant_def, by_merchant_def]
    exact lookup_accum_perm (gCount_comm lower) k p
  · intro k; rw [by_category_def, by_category_def]
    exact lookup_accum_perm (gCount_comm lower) k p
  · intro k; rw [by_month_def, by_month_def]
    exact lookup_accum_perm (fun x y z => Int.add_right_comm z (eff lower x) (eff lower y)) k p

/-- Splitting the transactions across data sources: the figures of `l₁ ++ l₂` are obtained by
continuing the accumulation of `l₁` with `l₂` — scalar totals add, every `byMerchant` entry is the
entry for `l₁` extended by the items of `l₂` with that key. -/
theorem analyze_append (lower : String → String) (l₁ l₂ : List T) :
    flowOf (analyze N lower (l₁ ++ l₂)) =
      ⟨(analyze N lower l₁).income + (analyze N lower l₂).income,
       (analyze N lower l₁).spending + (analyze N lower l₂).spending,
       (analyze N lower l₁).credits + (analyze N lower l₂).credits,
       (analyze N lower l₁).transfersIn + (analyze N lower l₂).transfersIn,
       (analyze N lower l₁).transfersOut + (analyze N lower l₂).transfersOut,
       (analyze N lower l₁).investment + (analyze N lower l₂).investment,
       (analyze N lower l₁).count + (analyze N lower l₂).count,
       (analyze N lower l₁).total + (analyze N lower l₂).total⟩ ∧
    (∀ k, (analyze N lower (l₁ ++ l₂)).byMerchant.lookup k =
      match (analyze N lower l₁).byMerchant.lookup k with
      | some v => some ((l₂.filter (fun t => t.merchant == k)).foldl (fun b t => gCount lower t b) v)
      | none => (analyze N lower l₂).byMerchant.lookup k) := by
  refine ⟨?_, ?_⟩
  · rw [analyze, List.foldl_append, fold_flow, ← flow_totals]; rfl   -- `Flow.add` of the two `flowOf`, written out
  intro k
  simp only [by_merchant_def]
  rw [accumFrom_append, lookup_accumFrom, lookup_accum (l := l₂)]
  cases List.lookup k (accumFrom (fun t : T => t.merchant) (0, 0) (gCount lower) [] l₁) <;> rfl

/-! ### non-vacuity: the theorems talk about lists like this one -/

def sample : List T :=
  [⟨-10000, some ["Income"], "Emp", "Income", "Salary", "2025-01"⟩,
   ⟨2500, some ["TRANSFER", "x"], "Bank", "Transfers", "", "2025-01"⟩,
   ⟨-300, none, "Shop", "Shopping", "", "2025-02"⟩,
   ⟨0, some [], "Z", "Misc", "", "2025-02"⟩,
   ⟨-700, some ["Investment", "transfer"], "Broker", "Savings", "", "2025-03"⟩,
   ⟨4200, some ["groceries"], "Shop", "Food", "", "2025-02"⟩]

example : flowOf (analyze N asciiLower sample) = ⟨10000, 4200, 300, 2500, 0, 700, 6, -4300⟩ := by decide +kernel
example : (analyze N asciiLower sample).byMerchant.lookup "Shop" = some (2, 3900) := by decide +kernel

private theorem asciiLower_bne (s w : String) :
    (asciiLower s != w) = (s.toList.map Char.toLower != w.toList) := by
  rw [← String.toList_map, Bool.eq_iff_iff, bne_iff_ne, bne_iff_ne, Ne, Ne, String.toList_inj]; rfl

/-- near-miss tags under the driver's `asciiLower`: none of them is a special tag, so the bucket is spending -/
example : ["income-tax", "Transfer fee", " income", "INVESTMENT:fees", "transfers", "reinvestment", "İncome", "tranſfer"].all
    (fun t => asciiLower t != "income" && asciiLower t != "investment" && asciiLower t != "transfer") = true := by
  -- compared as character lists: the kernel decodes a string literal slowly, `String.ofList` of its characters at once
  simp only [asciiLower_bne, List.all_cons, List.all_nil]
  repeat rw [String.toList_ofList]
  decide +kernel
example : ClassPy.categorize_amount N asciiLower 500 (some ["income-tax", "Transfer fee", " income"]) = single .spending 500 := by
  decide +kernel
example : sample.Perm (sample.reverse) := (List.reverse_perm sample).symm

end TallyVerif.Props.C06
