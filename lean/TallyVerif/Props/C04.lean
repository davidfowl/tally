/-
C04 — expressions mean what the reference says: logic, comparisons, match functions.

All statements are about `Expr.eval`, the model of `TransactionEvaluator` that is tied to the code by
the evaluator correspondence (exhaustive operator × type table, random well-typed and ill-typed streams, full
engine runs).  They hold for EVERY oracle family (regex engine, Unicode case mapping, …), context
and scope, and include the error behaviour and the final scope unless said otherwise.
-/
import TallyVerif.Lemmas.Scope
import TallyVerif.Lemmas.NameCase
import TallyVerif.Model.Engine

namespace TallyVerif.Props.C04
open TallyVerif.Py TallyVerif.Expr

/-- Python `bool(v)` as a value -/
def asBool (v : Val) : Val := .bool (truthy v)

/-! ### Boolean connectives -/

/-- `not not e` is `bool(e)`: same value, same error, same final scope -/
theorem not_not (o : Oracles) (ctx : Ctx) (e : Expr) (s : Scope) :
    eval o ctx (.unop .not (.unop .not e)) s =
      (match eval o ctx e s with
       | (.ok v, s') => (.ok (asBool v), s')
       | (.error err, s') => (.error err, s')) := by
  simp only [eval_unop, bind_apply]
  cases eval o ctx e s with
  | mk r s' => cases r <;> simp [asBool]

/-- `and`: operands are evaluated left to right; the first falsy one decides (the rest is NOT
evaluated) and the result is a Python bool -/
theorem and_short_circuit (o : Oracles) (ctx : Ctx) (a : Expr) (rest : List Expr) (s : Scope) :
    eval o ctx (.boolop true (a :: rest)) s =
      (match eval o ctx a s with
       | (.ok v, s') => if truthy v then eval o ctx (.boolop true rest) s' else (.ok (.bool false), s')
       | (.error err, s') => (.error err, s')) := by
  rw [eval_boolop_cons, bind_apply]
  cases eval o ctx a s with
  | mk r s' =>
    cases r with
    | error e => rfl
    | ok v => dsimp only; cases truthy v <;> rfl

theorem or_short_circuit (o : Oracles) (ctx : Ctx) (a : Expr) (rest : List Expr) (s : Scope) :
    eval o ctx (.boolop false (a :: rest)) s =
      (match eval o ctx a s with
       | (.ok v, s') => if truthy v then (.ok (.bool true), s') else eval o ctx (.boolop false rest) s'
       | (.error err, s') => (.error err, s')) := by
  rw [eval_boolop_cons, bind_apply]
  cases eval o ctx a s with
  | mk r s' =>
    cases r with
    | error e => rfl
    | ok v => dsimp only; cases truthy v <;> rfl

theorem and_empty (o : Oracles) (ctx : Ctx) (s : Scope) : eval o ctx (.boolop true []) s = (.ok (.bool true), s) := rfl

theorem or_empty (o : Oracles) (ctx : Ctx) (s : Scope) : eval o ctx (.boolop false []) s = (.ok (.bool false), s) := rfl

/-- De Morgan: `not (a and b)` ≡ `(not a) or (not b)` — value, errors, evaluation order and scope -/
theorem de_morgan_and (o : Oracles) (ctx : Ctx) (a b : Expr) (s : Scope) :
    eval o ctx (.unop .not (.boolop true [a, b])) s =
      eval o ctx (.boolop false [.unop .not a, .unop .not b]) s :=
  congrFun (eval_not_boolop o ctx true a b) s

/-- De Morgan: `not (a or b)` ≡ `(not a) and (not b)` -/
theorem de_morgan_or (o : Oracles) (ctx : Ctx) (a b : Expr) (s : Scope) :
    eval o ctx (.unop .not (.boolop false [a, b])) s =
      eval o ctx (.boolop true [.unop .not a, .unop .not b]) s :=
  congrFun (eval_not_boolop o ctx false a b) s

/-- an operand is *quiet* at a scope when it evaluates to a value without touching the scope -/
def Quiet (o : Oracles) (ctx : Ctx) (e : Expr) (s : Scope) (v : Val) : Prop := eval o ctx e s = (.ok v, s)

/-- swapping error-free, scope-neutral operands of `and` / `or` does not change the result -/
theorem and_comm (o : Oracles) (ctx : Ctx) (a b : Expr) (s : Scope) (va vb : Val)
    (ha : Quiet o ctx a s va) (hb : Quiet o ctx b s vb) :
    eval o ctx (.boolop true [a, b]) s = eval o ctx (.boolop true [b, a]) s := by
  unfold Quiet at ha hb
  simp only [and_short_circuit, ha, hb, and_empty]
  cases truthy va <;> cases truthy vb <;> rfl

theorem or_comm (o : Oracles) (ctx : Ctx) (a b : Expr) (s : Scope) (va vb : Val)
    (ha : Quiet o ctx a s va) (hb : Quiet o ctx b s vb) :
    eval o ctx (.boolop false [a, b]) s = eval o ctx (.boolop false [b, a]) s := by
  unfold Quiet at ha hb
  simp only [or_short_circuit, ha, hb, or_empty]
  cases truthy va <;> cases truthy vb <;> rfl

/-! ### arithmetic -/

/-- division or modulo by zero gives 0 (the int 0), whatever value the left operand has -/
theorem div_zero (o : Oracles) (ctx : Ctx) (l r : Expr) (s s1 s2 : Scope) (a b : Val)
    (hl : eval o ctx l s = (.ok a, s1)) (hr : eval o ctx r s1 = (.ok b, s2)) (hz : isZero b = true) :
    eval o ctx (.binop .div l r) s = (.ok (.int 0), s2) ∧ eval o ctx (.binop .mod l r) s = (.ok (.int 0), s2) := by
  constructor <;> rw [eval_binop, bind_ok hl, bind_ok hr] <;> simp only [hz, if_true, pure_apply]

/-- what counts as zero: the ints/floats/bools that are `== 0` in Python -/
example : isZero (.int 0) = true ∧ isZero (.bool false) = true ∧ isZero (.flt 0) = true ∧ isZero (.str "") = false ∧
    isZero .none = false := by decide +kernel

/-! ### comparison chains -/

/-- the date / ISO-string coercion of one link leaves both operands as they are -/
def NoCoercion (l r : Val) : Prop :=
  match l, r with
  | .date _, .str _ => False
  | .str _, .date _ => False
  | _, _ => True

theorem coerce_noop (o : Oracles) (l r : Val) (h : NoCoercion l r) : coerceDates o l r = .ok (l, r) := by
  fun_cases coerceDates o l r
  · exact h.elim
  · exact h.elim
  · rfl

private theorem chain_split {o : Oracles} {ctx : Ctx} {a b : Expr} {o₁ : CmpOp} {links : List Link} {s s1 : Scope} {va vb : Val}
    (ha : eval o ctx a s = (.ok va, s1)) (hb : Quiet o ctx b s1 vb) (hn : NoCoercion va vb) :
    eval o ctx (.cmp a (.mk o₁ b :: links)) s = eval o ctx (.boolop true [.cmp a [.mk o₁ b], .cmp b links]) s := by
  -- both sides run `a` (to `va`), the quiet `b` (to `vb`) and the uncoerced link `va o₁ vb`; they part only after it
  simp only [eval_cmp, eval_boolop, evalBool_cons, evalBool_nil, evalLinks_cons, evalLinks_nil, bind_assoc, pure_bind,
    ite_bind, truthy_bool, if_true, bind_ok ha, bind_ok hb, coerce_noop o va vb hn, liftE_ok]
  cases cmpLink o o₁ va vb with
  | error e => rfl
  | ok holds =>
    cases holds with
    | false => rfl
    | true =>
      -- the right side runs `b` once more (quiet) and then takes `bool(…)` of what the rest of the chain gave: a Bool `x` already
      simp only [liftE_ok, pure_bind, if_true, bind_ok hb]
      refine congrFun (congrArg _ (funext fun x => ?_)) s1
      cases x <;> rfl

/-- `a o₁ b o₂ c` is the conjunction `(a o₁ b) and (b o₂ c)` — same value, same errors, same
scope — whenever the middle operand is quiet (evaluates to a value without touching the scope, so
evaluating it a second time is harmless) and is not date/ISO-coerced by the first link. -/
theorem chain_eq_conj (o : Oracles) (ctx : Ctx) (a b c : Expr) (o₁ o₂ : CmpOp) (s s1 : Scope) (va vb : Val)
    (ha : eval o ctx a s = (.ok va, s1)) (hb : Quiet o ctx b s1 vb) (hn : NoCoercion va vb) :
    eval o ctx (.cmp a [.mk o₁ b, .mk o₂ c]) s =
      eval o ctx (.boolop true [.cmp a [.mk o₁ b], .cmp b [.mk o₂ c]]) s :=
  chain_split ha hb hn

/-- a chain stops at the first false link: later comparators are not evaluated -/
theorem chain_stops (o : Oracles) (ctx : Ctx) (left : Val) (op : CmpOp) (e : Expr) (rest : List Link) (s s1 : Scope)
    (vr : Val) (l r : Val) (he : eval o ctx e s = (.ok vr, s1)) (hco : coerceDates o left vr = .ok (l, r))
    (hf : cmpLink o op l r = .ok false) :
    evalLinks o ctx left (.mk op e :: rest) s = (.ok false, s1) := by
  simp [evalLinks_cons, bind_apply, he, hco, hf]

/-! ### names are case-insensitive -/

/-- variable / primitive names: only the lower-cased spelling matters -/
theorem name_case (o : Oracles) (ctx : Ctx) (id id' : String) (h : lowerName id = lowerName id') :
    eval o ctx (.name id) = eval o ctx (.name id') := by
  rw [eval_name, eval_name, lookupName_congr ctx h]

/-- attribute names on a receiver that is not a plain name (`rows[0].X`); `field.X`, `txn.X`, `r.X` are `.attrName`
nodes, which `mapNames_case` below covers -/
theorem attr_case (o : Oracles) (ctx : Ctx) (e : Expr) (a a' : String) (h : lowerName a = lowerName a') :
    eval o ctx (.attr e a) = eval o ctx (.attr e a') := by
  simp only [eval_attr, h]

/-! ### names are case-insensitive: WHOLE expressions

`Expr.mapNames f` (Model/ExprNames.lean) rewrites every identifier position of the tree — variable /
primitive / data-source names, `txn` / `field` / row receivers, attribute names, function names (plain calls
and calls consuming a generator), string-method names, comprehension binders, walrus targets — and
nothing else.  Model and code lower-case an identifier at every one of these positions, at binding
time as well as at lookup time, so no side condition on binders is needed.  What is NOT an identifier
and stays case-sensitive (model and code agree, see the examples below): string constants, in
particular the key of a `row["key"]` subscript; and the KEYS of the context (variables, data
sources, captured fields, row columns) — they belong to the context, which the theorem keeps fixed. -/

/-- CLAUSE "changing the letter case of function and variable names never changes the result", for
whole expressions: renaming every identifier of `e` by any `f` that keeps each identifier's
lower-cased spelling leaves the evaluation unchanged — same value, same error, same final scope —
for every oracle family, context and starting scope. -/
theorem mapNames_case (o : Oracles) (ctx : Ctx) (f : String → String) (hf : CasePreserving f) (e : Expr) (s : Scope) :
    eval o ctx (e.mapNames f) s = eval o ctx e s := by
  rw [eval_mapNames_aux o ctx f hf e]

/-- … in particular for a top-level evaluation (fresh evaluator) -/
theorem run_mapNames_case (o : Oracles) (ctx : Ctx) (f : String → String) (hf : CasePreserving f) (e : Expr) :
    run o ctx (e.mapNames f) = run o ctx e := by
  unfold run; rw [mapNames_case o ctx f hf]

/-- The position-by-position form: two expressions that become THE SAME tree once every identifier
is lower-cased (so each occurrence may be spelled in its own way: `Amount + AMOUNT`, a binder `X`
used as `x`) evaluate identically. -/
theorem same_lowered_names (o : Oracles) (ctx : Ctx) (e e' : Expr) (h : e.mapNames lowerName = e'.mapNames lowerName)
    (s : Scope) : eval o ctx e s = eval o ctx e' s := by
  rw [← mapNames_case o ctx lowerName casePreserving_lower e, ← mapNames_case o ctx lowerName casePreserving_lower e', h]

/-- the same for the sub-evaluators the induction goes through: argument lists, `and`/`or` operand lists,
`if` clauses, comparison chains, generator clauses (binders included) -/
theorem mapNames_case_lists (o : Oracles) (ctx : Ctx) (f : String → String) (hf : CasePreserving f) :
    (∀ es, evalArgs o ctx (mapNamesList f es) = evalArgs o ctx es) ∧
    (∀ c es, evalLazyArgs o ctx c (mapNamesList f es) = evalLazyArgs o ctx c es) ∧
    (∀ isAnd es, evalBool o ctx isAnd (mapNamesList f es) = evalBool o ctx isAnd es) ∧
    (∀ es, evalConds o ctx (mapNamesList f es) = evalConds o ctx es) ∧
    (∀ links left, evalLinks o ctx left (mapNamesLinks f links) = evalLinks o ctx left links) ∧
    (∀ gens, evalGens o ctx (mapNamesComps f gens) = evalGens o ctx gens) :=
  have h := sameEvals_mapNames_aux o ctx f hf
  ⟨fun es => (h es).evalArgs_eq, fun c es => (h es).evalLazyArgs_eq c, fun isAnd es => (h es).evalBool_eq isAnd, fun es => (h es).evalConds_eq,
   evalLinks_mapNames_aux o ctx f hf, evalGens_mapNames_aux o ctx f hf⟩

/-- renamings that satisfy the hypothesis on EVERY string: upper-casing, lower-casing, and any
per-identifier table of respellings (every string of the model's `lowerName`, which moves A–Z only: Model/Expr.lean
leaves non-ASCII identifiers, where `str.lower()` does more, out of the model) -/
example : CasePreserving String.toUpper ∧ CasePreserving lowerName ∧
    CasePreserving (fun id => ([("x", "X"), ("rows", "Rows"), ("sum", "SuM"), ("a", "A")].lookup id).getD id) :=
  ⟨casePreserving_upper, casePreserving_lower,
   casePreserving_table _ (by decide +kernel)⟩     -- `tableOk`

/-! ### dates -/

/-- `date ⋈ "YYYY-MM-DD"`: the ISO string is read as a date and the comparison is the date order -/
theorem date_vs_iso (o : Oracles) (d d' : Date) (iso : String) (h : strictIso iso = some (some d')) :
    coerceDates o (.date d) (.str iso) = .ok (.date d, .date d') ∧
    cmpLink o .ge (.date d) (.date d') = .ok (d'.lt d || d' == d) ∧
    cmpLink o .lt (.date d) (.date d') = .ok (d.lt d') ∧
    cmpLink o .eq (.date d) (.date d') = .ok (d == d') := by
  refine ⟨?_, rfl, rfl, rfl⟩
  rw [coerceDates, parseDate, h]; rfl

/-- a string that is not a date makes the comparison an expression error (not a Python exception) -/
theorem date_vs_bad_iso (o : Oracles) (d : Date) (iso : String) (h : strictIso iso = some none) :
    coerceDates o (.date d) (.str iso) = .error (.expr "Invalid date format") := by
  rw [coerceDates, parseDate, h]; rfl

/-- month / year / day / weekday are those of the transaction date (0 when there is no date) -/
theorem date_parts (ctx : Ctx) (d : Date) (h : ctx.date = some d) :
    primitive ctx "month" = some (.int d.m) ∧ primitive ctx "year" = some (.int d.y) ∧
    primitive ctx "day" = some (.int d.d) ∧ primitive ctx "weekday" = some (.int d.weekday) := by
  unfold primitive
  simp only [h, and_self]

theorem date_parts_missing (ctx : Ctx) (h : ctx.date = none) :
    primitive ctx "month" = some (.int 0) ∧ primitive ctx "weekday" = some (.int 0) ∧ primitive ctx "date" = some .none := by
  unfold primitive
  simp only [h, and_self]

/-- weekday: Monday = 0 … Sunday = 6 (`Date.weekday` is `(ordinal + 6) % 7`, periodic in the ordinal by definition) -/
theorem weekday_range (d : Date) : d.weekday < 7 := by unfold Date.weekday; omega
example : (⟨2025, 3, 14⟩ : Date).weekday = 4 ∧ (⟨2024, 12, 30⟩ : Date).weekday = 0 ∧ (⟨2000, 2, 29⟩ : Date).weekday = 1 := by
  decide +kernel

/-! ### letter case of ASCII text never matters for ==, !=, in, contains, startswith, normalized -/

/-- two ASCII strings that differ only in letter case -/
def SameUpToCase (s s' : String) : Prop := isAsciiStr s = true ∧ isAsciiStr s' = true ∧ upperAscii s = upperAscii s'

theorem sameUpToCase_lower (s : String) (h : isAsciiStr s = true) : SameUpToCase s (lowerAscii s) :=
  ⟨h, isAscii_lower s h, (upper_lower_ascii s h).symm⟩

theorem sameUpToCase_upper (s : String) (h : isAsciiStr s = true) : SameUpToCase s (upperAscii s) := by
  refine ⟨h, isAscii_upper s h, ?_⟩
  -- `upper` is idempotent by way of `lower`: `up (up s) = up (lo (up s)) = up (lo s) = up s`
  rw [← upper_lower_ascii (upperAscii s) (isAscii_upper s h), lower_upper_ascii s h, upper_lower_ascii s h]

private theorem pyUpper_sameUpToCase (o : Oracles) {s s' : String} : SameUpToCase s s' → pyUpper o s = pyUpper o s'
  | ⟨hs, hs', hup⟩ => by rw [pyUpper_ascii o s hs, pyUpper_ascii o s' hs', hup]

private theorem pyLower_sameUpToCase (o : Oracles) {s s' : String} : SameUpToCase s s' → pyLower o s = pyLower o s'
  | ⟨hs, hs', hup⟩ => by rw [pyLower_ascii o s hs, pyLower_ascii o s' hs', ← lower_upper_ascii s hs, ← lower_upper_ascii s' hs', hup]

theorem contains_ci (o : Oracles) (ctx : Ctx) (t t' p p' : String) (ht : SameUpToCase t t') (hp : SameUpToCase p p') :
    callFn o ctx "contains" [.str t, .str p] = callFn o ctx "contains" [.str t', .str p'] :=
  callFn_text_congr o ctx ctx (.inl rfl) rfl rfl (pyUpper_sameUpToCase o ht) (pyUpper_sameUpToCase o hp)

theorem startswith_ci (o : Oracles) (ctx : Ctx) (t t' p p' : String) (ht : SameUpToCase t t') (hp : SameUpToCase p p') :
    callFn o ctx "startswith" [.str t, .str p] = callFn o ctx "startswith" [.str t', .str p'] :=
  callFn_text_congr o ctx ctx (.inr (.inr rfl)) rfl rfl (pyUpper_sameUpToCase o ht) (pyUpper_sameUpToCase o hp)

theorem normalized_ci (o : Oracles) (ctx : Ctx) (t t' p p' : String) (ht : SameUpToCase t t') (hp : SameUpToCase p p') :
    callFn o ctx "normalized" [.str t, .str p] = callFn o ctx "normalized" [.str t', .str p'] :=
  callFn_text_congr o ctx ctx (.inr (.inl rfl)) rfl rfl (pyUpper_sameUpToCase o ht) (pyUpper_sameUpToCase o hp)

/-- the one-argument forms search the description: its letter case does not matter either -/
theorem contains_desc_ci (o : Oracles) (ctx ctx' : Ctx) (p p' : String)
    (hd : SameUpToCase ctx.description ctx'.description) (hp : SameUpToCase p p') :
    callFn o ctx "contains" [.str p] = callFn o ctx' "contains" [.str p'] :=
  callFn_text_congr o ctx ctx' (.inl rfl) rfl rfl (pyUpper_sameUpToCase o hd) (pyUpper_sameUpToCase o hp)

theorem str_eq_ci (o : Oracles) (a a' b b' : String) (ha : SameUpToCase a a') (hb : SameUpToCase b b') :
    cmpLink o .eq (.str a) (.str b) = cmpLink o .eq (.str a') (.str b') ∧
    cmpLink o .ne (.str a) (.str b) = cmpLink o .ne (.str a') (.str b') := by
  unfold cmpLink
  simp only [pyLower_sameUpToCase o ha, pyLower_sameUpToCase o hb, and_self]

theorem str_in_ci (o : Oracles) (a a' b b' : String) (ha : SameUpToCase a a') (hb : SameUpToCase b b') :
    cmpLink o .isIn (.str a) (.str b) = cmpLink o .isIn (.str a') (.str b') ∧
    cmpLink o .notIn (.str a) (.str b) = cmpLink o .notIn (.str a') (.str b') := by
  unfold cmpLink
  simp only [pyUpper_sameUpToCase o ha, pyUpper_sameUpToCase o hb, and_self]

/-- `regex()` is case-insensitive by construction (re.IGNORECASE); that the regex engine itself ignores
ASCII case is an oracle law, tested against CPython by the harness, not proved here. -/
theorem regex_uses_oracle (o : Oracles) (ctx : Ctx) (t p : String) (b : Bool) (h : o.reSearch p t = some (some b)) :
    callFn o ctx "regex" [.str t, .str p] = .ok (.bool b) := by
  unfold callFn
  simp [textPattern, hashable, h, bind, Except.bind, pure, Except.pure]

/-! ### the comprehension loop, the body of `any()` and `:=`

The loop statements are about `loopItems` with the condition, element and body as computations: `eval_listcomp` and
`evalGens_cons` say with which ones a comprehension of the language runs it. -/

/-- the loop of a comprehension whose condition and body are quiet: a fold over the items that
pass the condition, the scope is left as it was (the binder is unbound again) -/
theorem loop_quiet (x : String) (cond : M Bool) (body : Acc → M (Step Acc)) (c : Val → Bool) (g : Val → Acc → Acc)
    (items : List Val) (s : Scope) (acc : Acc)
    (hx : s.lookup x = none)
    (hcond : ∀ it ∈ items, cond (s ++ [(x, it)]) = (.ok (c it), s ++ [(x, it)]))
    (hbody : ∀ it ∈ items, ∀ a, body a (s ++ [(x, it)]) = (.ok (.more (g it a)), s ++ [(x, it)])) :
    loopItems x cond body items acc s = (.ok (.more ((items.filter c).foldl (fun a it => g it a) acc)), s) :=
  loopItems_quiet x cond body c g items s acc hx hcond (fun it hi _ => hbody it hi)

private theorem fold_collect (f : Val → Val) (l : List Val) (acc : Acc) :
    l.foldl (fun a it => { a with vals := f it :: a.vals }) acc = { acc with vals := (l.map f).reverse ++ acc.vals } := by
  induction l generalizing acc with
  | nil => simp
  | cons x l ih => simp [ih]

/-- One generator over a list with a quiet condition and element (each evaluates to a value
without touching the scope): the loop of `[elt for x in items if cond]` is exactly `filter` then `map`, in
order, and the scope is left as it was. -/
theorem loop_collect_spec (x : String) (cond : M Bool) (elt : M Val) (c : Val → Bool) (f : Val → Val)
    (items : List Val) (s : Scope) (acc : Acc)
    (hx : s.lookup x = none)
    (hcond : ∀ it ∈ items, cond (s ++ [(x, it)]) = (.ok (c it), s ++ [(x, it)]))
    (helt : ∀ it ∈ items, elt (s ++ [(x, it)]) = (.ok (f it), s ++ [(x, it)])) :
    loopItems x cond (fun a => do let v ← elt; liftE (consume .collect a v)) items acc s =
      (.ok (.more { acc with vals := ((items.filter c).map f).reverse ++ acc.vals }), s) := by
  rw [loop_quiet x cond _ c (fun it a => { a with vals := f it :: a.vals }) items s acc hx hcond]
  · rw [fold_collect]
  · intro it hi a
    rw [bind_ok (helt it hi)]; rfl

/-- the loop of `any(elt for x in items)` with a quiet element: the value is `List.any` over the elements'
truthiness.  The final scope is in `loopItems_any`: the binder stays bound to the first truthy item, where the loop stops. -/
theorem loop_any_spec (x : String) (body : Acc → M (Step Acc)) (f : Val → Val) (items : List Val) (s : Scope) (acc : Acc)
    (hx : s.lookup x = none)
    (hbody : ∀ it ∈ items, ∀ a, body a (s ++ [(x, it)]) =
      (.ok (if truthy (f it) then .done { a with cur := .bool true } else .more a), s ++ [(x, it)])) :
    ∃ s', loopItems x (pure true) body items acc s =
      (.ok (if items.any (fun it => truthy (f it)) then .done { acc with cur := .bool true } else .more acc), s') :=
  ⟨_, loopItems_any x body (fun it => truthy (f it)) items s acc hx hbody⟩

/-- the body `any()` runs per element is of that shape whenever the element expression is quiet -/
theorem any_body_shape (elt : M Val) (σ : Scope) (v : Val) (a : Acc) (h : elt σ = (.ok v, σ)) :
    (do let w ← elt; liftE (consume .any a w) : M (Step Acc)) σ =
      (.ok (if truthy v then .done { a with cur := .bool true } else .more a), σ) := by
  rw [bind_ok h, liftE_apply, consume]
  cases truthy v <;> rfl

/-- `:=` yields the value and stores it under the (lower-cased) name in the scope -/
theorem walrus_binds (o : Oracles) (ctx : Ctx) (id : String) (e : Expr) (s s1 : Scope) (v : Val)
    (h : eval o ctx e s = (.ok v, s1)) :
    eval o ctx (.walrus id e) s = (.ok v, (setVar (lowerName id) v s1).2) := by
  rw [eval_walrus, bind_ok h, bind_ok (setVar_ok (lowerName id) v s1)]
  rfl

/-- … and a later use of the name finds it (when it was not bound before) -/
theorem walrus_then_name (o : Oracles) (ctx : Ctx) (id : String) (s1 : Scope) (v : Val)
    (hfresh : s1.lookup (lowerName id) = none) :
    eval o ctx (.name id) (setVar (lowerName id) v s1).2 = (.ok v, (setVar (lowerName id) v s1).2) := by
  simp [eval_name, lookupName, bind_apply, getScope_apply, setVar_fresh hfresh, lookup_append_fresh hfresh]

/-! ### non-vacuity and the one recorded scope observation -/

open TallyVerif.Engine in
def noOracle : Oracles := ⟨fun _ => none, fun _ => none, fun _ _ => none, fun _ _ => none, fun _ _ _ => none,
  fun _ _ => none, fun _ => none, fun _ => none, fun _ _ => none, fun _ _ => none⟩

def ctxEx : Ctx :=
  { description := "Uber Eats 123", amount := .int 45, date := some ⟨2025, 3, 14⟩, source := "Amex", location := "",
    field := some [("memo", .str "x")], variables := [("r", .int 5)],
    sources := [("rows", .list [.row [("a", .int 1)], .row [("a", .int 7)]])], functionNames := ["contains", "startswith"] }

open TallyVerif.Engine in
example : outcomeTag (run noOracle ctxEx (.callName "contains" [.const (.str "uBER")])) = "ok bool:True" := by decide +kernel
open TallyVerif.Engine in
example : outcomeTag (run noOracle ctxEx (.cmp (.const (.int 1)) [.mk .lt (.name "Amount"), .mk .lt (.const (.int 50))])) =
    "ok bool:True" := by decide +kernel
open TallyVerif.Engine in
example : outcomeTag (run noOracle ctxEx (.cmp (.name "date") [.mk .ge (.const (.str "2025-03-01"))])) = "ok bool:True" := by
  decide +kernel
open TallyVerif.Engine in
example : outcomeTag (run noOracle ctxEx (.listcomp (.attrName "x" "a") [.mk (some "x") (.name "rows")
    [.cmp (.attrName "x" "a") [.mk .gt (.const (.int 2))]]])) = "ok list:?" := by decide +kernel
example : SameUpToCase "Uber Eats" "UBER eats" := by
  unfold SameUpToCase      -- the two computed strings are compared as character lists (`String` equality of computed strings is slow in the kernel)
  exact ⟨by decide +kernel, by decide +kernel, String.toList_inj.mp (by decide +kernel)⟩

/-- `sum(x.a for x in rows if x.a > 2) + (m := len(rows)) + m`, with a method call and `txn.` / `field.` access
in the condition: every identifier position occurs -/
def exNames : Expr :=
  .binop .add (.binop .add
    (.callNameGen "sum" (.attrName "x" "a") [.mk (some "x") (.name "rows")
      [.cmp (.attrName "x" "a") [.mk .gt (.const (.int 2))],
       .callAttr (.callAttr (.attrName "txn" "description") "lower" []) "startswith" [.const (.str "uber")],
       .cmp (.attr (.subscript (.name "rows") (.const (.int 0))) "a") [.mk .eq (.const (.int 1))],
       .callName "exists" [.attrName "field" "memo"]]] [])
    (.walrus "m" (.callName "len" [.name "rows"])))
    (.name "m")

/-- the same expression with the binder written `X` but used as `x`, `SUM`, `Rows`, `.A`, `.LOWER()`, `TXN.Description`, `M := … m` -/
def exNamesMixed : Expr :=
  .binop .add (.binop .add
    (.callNameGen "SUM" (.attrName "x" "A") [.mk (some "X") (.name "Rows")
      [.cmp (.attrName "X" "a") [.mk .gt (.const (.int 2))],
       .callAttr (.callAttr (.attrName "TXN" "Description") "LOWER" []) "StartsWith" [.const (.str "uber")],
       .cmp (.attr (.subscript (.name "ROWS") (.const (.int 0))) "A") [.mk .eq (.const (.int 1))],
       .callName "Exists" [.attrName "Field" "MEMO"]]] [])
    (.walrus "M" (.callName "LEN" [.name "rOWS"])))
    (.name "m")

open TallyVerif.Engine in
private theorem exNames_value : outcomeTag (run noOracle ctxEx exNames) = "ok int:11" := by decide +kernel
open TallyVerif.Engine in
example : outcomeTag (run noOracle ctxEx exNames) = "ok int:11" ∧
    outcomeTag (run noOracle ctxEx (exNames.mapNames String.toUpper)) = "ok int:11" :=
  ⟨exNames_value, by rw [run_mapNames_case noOracle ctxEx _ casePreserving_upper]; exact exNames_value⟩
/-- the hypothesis of `same_lowered_names` holds for the pair (string equalities are decided on character lists) … -/
theorem exNames_same_lowered : exNamesMixed.mapNames lowerName = exNames.mapNames lowerName := by
  simp [exNames, exNamesMixed, Expr.mapNames, mapNamesList, mapNamesComps, mapNamesLinks, lowerName, ← String.toList_inj,
    String.toLower, String.toList_map]
/-- … so the mixed spelling evaluates like the plain one everywhere, and to 11 here (obtained from the theorem: running the
mixed tree itself, the kernel has to compare computed strings such as `lower("X")` and `lower("x")`, which is slow) -/
example (o : Oracles) (ctx : Ctx) (s : Scope) : eval o ctx exNamesMixed s = eval o ctx exNames s :=
  same_lowered_names o ctx _ _ exNames_same_lowered s
open TallyVerif.Engine in
example : outcomeTag (run noOracle ctxEx exNamesMixed) = "ok int:11" := by
  -- `run` is only rewritten here, never unfolded: asked whether `run e` is `(eval e []).1` for a closed `e`, the kernel runs `e`
  rw [← run_mapNames_case noOracle ctxEx lowerName casePreserving_lower, exNames_same_lowered,
    run_mapNames_case noOracle ctxEx lowerName casePreserving_lower]
  exact exNames_value

/-- NOT identifiers, and case-SENSITIVE in model and code alike: the string key of a subscript
(`rows[0]["a"]` is 1, `rows[0]["A"]` is an "Index error" ExpressionError; as an attribute both `.a`
and `.A` give 1) … -/
example :
    Engine.outcomeTag (run noOracle ctxEx (.subscript (.subscript (.name "rows") (.const (.int 0))) (.const (.str "a")))) = "ok int:1" ∧
    Engine.outcomeTag (run noOracle ctxEx (.subscript (.subscript (.name "rows") (.const (.int 0))) (.const (.str "A")))) = "ExpressionError" ∧
    Engine.outcomeTag (run noOracle ctxEx (.attr (.subscript (.name "ROWS") (.const (.int 0))) "A")) = "ok int:1" := by decide +kernel
/-- … and the keys of the context: a variable stored under the key `R` (the rule loader never does
that: it stores lower-cased names) is found under NO spelling, because every spelling is looked up
as `r`; a row column `A` is reached by no attribute spelling.  The renaming theorem is unaffected
(both spellings fail alike). -/
example :
    Engine.outcomeTag (run noOracle { ctxEx with variables := [("R", .int 5)] } (.name "R")) = "ExpressionError" ∧
    Engine.outcomeTag (run noOracle { ctxEx with variables := [("R", .int 5)] } (.name "r")) = "ExpressionError" ∧
    Engine.outcomeTag (run noOracle { ctxEx with sources := [("rows", .list [.row [("A", .int 1)]])] }
      (.attr (.subscript (.name "rows") (.const (.int 0))) "A")) = "ExpressionError" := by decide +kernel

/-- OBSERVATION (recorded, DESIGN.md §6 C04-obs): a generator abandoned by `any()` leaves its binder
bound, so a top-level variable of the same name is shadowed afterwards.  With a variable `r = 5`:
`any(r.a == 1 for r in rows) and r == 5` is False in the evaluator (Python's scoping gives True). -/
theorem binder_leak_observation :
    Engine.outcomeTag (run noOracle ctxEx
      (.boolop true [.callNameGen "any" (.cmp (.attrName "r" "a") [.mk .eq (.const (.int 1))]) [.mk (some "r") (.name "rows") []] [],
                     .cmp (.name "r") [.mk .eq (.const (.int 5))]])) = "ok bool:False" := by
  decide +kernel

end TallyVerif.Props.C04
