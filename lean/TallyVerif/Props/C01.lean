/-
C01 — in first-match mode the first matching categorising rule decides merchant, category and
subcategory; non-matching rules and rules after the winner are irrelevant; no such rule ⇒ Unknown.

Model: `Rules.matchEngine` (the `for rule in self.rules` loop of `MerchantEngine.match` and its
`first_match` branch) and `Rules.legacy` (the tuple loop of `normalize_merchant`), both over an
ARBITRARY per-rule evaluation `ev` — so every statement holds for every expression language,
variables, lets, transforms and regex engine at once.  `fix` (the D2 flag) and `key` are arbitrary too.
`Rules.applyTransforms` is `apply_transforms`, which runs before either loop, over an arbitrary evaluation `tev`.
-/
import TallyVerif.Lemmas.Rules

namespace TallyVerif.Props.C01
open TallyVerif.Rules

/-- merchant / category / subcategory of a result -/
def mcs (r : Result) : String × String × String := (r.merchant, r.category, r.subcategory)

def wins (ev : Rule → Eval) (r : Rule) : Bool := (ev r).hit && r.isCat

/-- The first-match result is determined by `find?` of the first matching categorising rule (file
order): it is the matched rule, and merchant, category and subcategory are its; otherwise nothing. -/
theorem first_match_spec (fix : Bool) (key : Rule → Key) (ev : Rule → Eval) (rs : List Rule) :
    let res := matchEngine fix key ev .firstMatch rs
    res.matchedRule = rs.find? (wins ev) ∧
    res.matched = (rs.find? (wins ev)).isSome ∧
    mcs res = match rs.find? (wins ev) with
      | some r => (r.merchant, r.category, r.subcategory)
      | none => ("", "", "") := by
  simp only [matchEngine, finish, runLoop_firstCat, mcs, show (fun r => (ev r).hit && r.isCat) = wins ev from rfl]
  cases h : rs.find? (wins ev) with
  | none => simp
  | some r =>   -- the subcategory is `if r.hasSub then r.subcategory else ""`: `r.subcategory` either way
    by_cases hs : r.hasSub = true
    · simp [hs]
    · have hs' : r.subcategory = "" := by simpa [Rule.hasSub] using hs
      simp [hs, hs']

/-- Rules whose condition is false for the transaction have no influence on ANY part of the
result (merchant, category, subcategory, tags, tag sources, extra fields, matching-rule lists) —
in both modes. -/
theorem nonmatching_irrelevant (fix : Bool) (key : Rule → Key) (ev : Rule → Eval) (mode : Mode)
    (rs : List Rule) :
    matchEngine fix key ev mode (rs.filter (fun r => (ev r).hit)) = matchEngine fix key ev mode rs := by
  simp only [matchEngine, runLoop_filter]

/-- Deleting / inserting any set of non-matching rules anywhere: two files with the same matching
rules in the same order classify identically. -/
theorem nonmatching_irrelevant_ext (fix : Bool) (key : Rule → Key) (ev : Rule → Eval) (mode : Mode)
    (rs rs' : List Rule)
    (h : rs.filter (fun r => (ev r).hit) = rs'.filter (fun r => (ev r).hit)) :
    matchEngine fix key ev mode rs = matchEngine fix key ev mode rs' := by
  rw [← nonmatching_irrelevant fix key ev mode rs, ← nonmatching_irrelevant fix key ev mode rs', h]

/-- Rules after the winning one cannot change merchant, category or subcategory. -/
theorem later_rules_irrelevant (fix : Bool) (key : Rule → Key) (ev : Rule → Eval)
    (pre post post' : List Rule) (w : Rule)
    (hw : wins ev w = true) (hpre : ∀ r ∈ pre, wins ev r = false) :
    mcs (matchEngine fix key ev .firstMatch (pre ++ w :: post')) =
      mcs (matchEngine fix key ev .firstMatch (pre ++ w :: post)) ∧
    mcs (matchEngine fix key ev .firstMatch (pre ++ w :: post)) = (w.merchant, w.category, w.subcategory) := by
  simp only [fun rs => (first_match_spec fix key ev rs).2.2, List.find?_append_cons_first hpre hw, and_self]

/-- No matching categorising rule ⇒ the engine reports "not matched" with empty
merchant/category/subcategory (and `normalize_merchant` then reports Unknown/Unknown: `unknown_fallback`). -/
theorem no_winner_unmatched (fix : Bool) (key : Rule → Key) (ev : Rule → Eval) (rs : List Rule)
    (h : ∀ r ∈ rs, wins ev r = false) :
    (matchEngine fix key ev .firstMatch rs).matched = false ∧
    mcs (matchEngine fix key ev .firstMatch rs) = ("", "", "") := by
  simp only [fun rs => (first_match_spec fix key ev rs).2, List.find?_none_of_forall h, Option.isSome_none, and_self]

/-- `normalize_merchant` on the engine path: the winner's merchant/category/subcategory, or —
when no categorising rule matches — Unknown/Unknown under a merchant name `fb` that the caller
computes from the (transformed) description alone. -/
theorem normalize_spec (fix : Bool) (key : Rule → Key) (ev : Rule → Eval) (rs : List Rule) (fb : String) :
    normalizeEngine (matchEngine fix key ev .firstMatch rs) fb =
      match rs.find? (wins ev) with
      | some r => (r.merchant, r.category, r.subcategory)
      | none => (fb, "Unknown", "Unknown") := by
  obtain ⟨-, h2, h3⟩ := first_match_spec fix key ev rs
  rw [normalizeEngine, h2, ← mcs, h3]
  cases rs.find? (wins ev) <;> rfl

theorem unknown_fallback (fix : Bool) (key : Rule → Key) (ev : Rule → Eval) (rs : List Rule) (fb : String)
    (h : ∀ r ∈ rs, wins ev r = false) :
    normalizeEngine (matchEngine fix key ev .firstMatch rs) fb = (fb, "Unknown", "Unknown") := by
  rw [normalize_spec, List.find?_none_of_forall h]

/-- transforms are applied in file order, each seeing the result of the previous ones -/
theorem transforms_sequential (tev : TState → String → String → Option String)
    (tr : String × String) (trs : List (String × String)) (s : TState) :
    applyTransforms tev (tr :: trs) s = applyTransforms tev trs (applyTransform s tr.1 (tev s tr.1 tr.2)) := rfl

/-- the original value of a transformed field, once saved under `_raw_<field>`, is never overwritten -/
theorem raw_saved_once (s : TState) (name : String) (v : Option String) (old : String)
    (h : s.raw.lookup ("_raw_" ++ name) = some old) :
    (applyTransform s name v).raw = s.raw := by
  cases v with
  | none => rfl
  | some v => unfold applyTransform; by_cases hn : (name == "description") = true <;> simp [hn, h]

def lwins (ev : LRule → LEval) (r : LRule) : Bool := (ev r).outcome == .matched && r.category != ""

/-- legacy loop: merchant/category/subcategory are those of the first rule, in file order, that
matched and carries a category; otherwise (fallback name, Unknown, Unknown). -/
theorem legacy_first_match_spec (ev : LRule → LEval) (fallback : String) (rs : List LRule) :
    let res := legacy ev fallback rs
    res.rule = rs.find? (lwins ev) ∧
    (res.merchant, res.category, res.subcategory) = match rs.find? (lwins ev) with
      | some r => (r.merchant, r.category, r.subcategory)
      | none => (fallback, "Unknown", "Unknown") := by
  have hfirst : (rs.foldl (lstep ev) ⟨none, [], []⟩).first = rs.find? (lwins ev) := lfold_first ev rs _
  simp only [legacy, hfirst]
  cases rs.find? (lwins ev) <;> exact ⟨rfl, rfl⟩

/-- legacy loop: rules that do not match (or whose pattern is invalid and is skipped) have no
influence on any part of the result. -/
theorem legacy_nonmatching_irrelevant (ev : LRule → LEval) (fallback : String) (rs : List LRule) :
    legacy ev fallback (rs.filter (fun r => (ev r).outcome == .matched)) = legacy ev fallback rs := by
  simp only [legacy, List.foldl_filter_of_skip (lstep_nomatch ev)]

theorem legacy_later_rules_irrelevant (ev : LRule → LEval) (fallback : String)
    (pre post post' : List LRule) (w : LRule)
    (hw : lwins ev w = true) (hpre : ∀ r ∈ pre, lwins ev r = false) :
    let a := legacy ev fallback (pre ++ w :: post); let b := legacy ev fallback (pre ++ w :: post')
    (a.merchant, a.category, a.subcategory) = (b.merchant, b.category, b.subcategory) ∧
    (a.merchant, a.category, a.subcategory) = (w.merchant, w.category, w.subcategory) := by
  simp only [fun rs => (legacy_first_match_spec ev fallback rs).2, List.find?_append_cons_first hpre hw, and_self]

/-- no categorising match ⇒ Unknown/Unknown under the fallback name, which (by its type) is
computed from the description alone by the caller. -/
theorem legacy_unknown (ev : LRule → LEval) (fallback : String) (rs : List LRule)
    (h : ∀ r ∈ rs, lwins ev r = false) :
    let a := legacy ev fallback rs
    (a.merchant, a.category, a.subcategory) = (fallback, "Unknown", "Unknown") := by
  simp only [fun rs => (legacy_first_match_spec ev fallback rs).2, List.find?_none_of_forall h]

/-! ### non-vacuity -/

def rTag : Rule := ⟨1, "Tag", "Tag", "", "", 50, "contains(\"A\")"⟩
def rCat1 : Rule := ⟨5, "One", "One", "Food", "Grocery", 50, "contains(\"A\")"⟩
def rMiss : Rule := ⟨9, "Miss", "Miss", "Other", "", 50, "contains(\"Z\")"⟩
def rCat2 : Rule := ⟨13, "Two", "Shop Two", "Shopping", "", 50, "contains(\"A\") and amount > 1"⟩
def evEx (r : Rule) : Eval := ⟨r.line != 9, if r.line == 1 then ["t", "u"] else if r.line == 13 then ["u", "v"] else [], []⟩
def keyEx (_ : Rule) : Key := ⟨50, 1, 0, 1⟩

example : mcs (matchEngine false keyEx evEx .firstMatch [rTag, rCat1, rMiss, rCat2]) = ("One", "Food", "Grocery") := by
  decide +kernel
example : (matchEngine false keyEx evEx .firstMatch [rTag, rCat1, rMiss, rCat2]).tags = ["t", "u", "v"] := by
  decide +kernel
example : wins evEx rCat1 = true ∧ ∀ r ∈ [rTag], wins evEx r = false := by decide +kernel

end TallyVerif.Props.C01
