/-
C16 — explain and discover describe the same classification that up applies.

After the D16 repair both commands go through the SAME functions as `tally up`
(`parse_generic_csv` with the supplemental rows, `normalize_merchant`), so on the model
(`Pipeline.classifyRow`) "explain = up" is a statement about one function applied to the
transaction explain builds from a description and an amount; `discover` is a grouping of the Unknown
transactions of that same classification.  The theorems below are about that grouping, for any
classification function and any transaction list (exact amounts).
PARTIAL: argparse, printing and explain's lookup cascade (merchant name → substring → description)
are exercised by the three-command oracle, not modelled.
-/
import TallyVerif.Model.Pipeline
import TallyVerif.Lemmas.TotalsInt

namespace TallyVerif.Props.C16
open TallyVerif.Totals TallyVerif.Pipeline TallyVerif.Engine TallyVerif.Rules TallyVerif.Expr TallyVerif.Py

/-- the transaction `tally explain "<description>" --amount a` asks about: a description and an amount,
nothing else (no date, no source, no custom fields) -/
def explainRow (description : String) (amountBits : UInt64) : Row :=
  { description := description, amount := amountBits, date := none, source := "", location := none, field := none }

/-- `explain_description` after the repair IS `normalize_merchant` on that transaction -/
def explain (o : Oracles) (fnames : List String) (key : Rule → Key) (sources : List (String × Val))
    (rb : Rulebook) (description : String) (amountBits : UInt64) : Except Err Classified :=
  classifyRow o fnames key sources rb (explainRow description amountBits)

/-- explain reports what `up` assigns to such a transaction — rule mode, variables, let bindings, tag-only
rules, transforms and supplemental rows included, because it is the same function on the same inputs -/
theorem explain_eq_up (o : Oracles) (fnames : List String) (key : Rule → Key) (sources : List (String × Val))
    (rb : Rulebook) (d : String) (a : UInt64) :
    explain o fnames key sources rb d a = classifyRow o fnames key sources rb (explainRow d a) := rfl

/-! ### discover = the Unknown transactions of that classification, grouped by raw description -/

structure CTxn where
  raw : String            -- raw description
  category : String
  amount : Int            -- exact (cents)
deriving DecidableEq, Repr

def absI (a : Int) : Int := if a < 0 then -a else a

/-- `tally discover`: Unknown transactions grouped by raw description with count and Σ |amount| -/
def discover (txns : List CTxn) : List (String × (Nat × Int)) :=
  accumFrom (fun t : CTxn => t.raw) (0, 0) (fun t p => (p.1 + 1, p.2 + absI t.amount)) []
    (txns.filter (fun t => t.category == "Unknown"))

/-! `Pipeline.discoverG` is the function the driver runs for `tally discover` (over IEEE doubles); over exact cents it is
`discover`, so the theorems below are statements about the modelled command. -/

def toD (t : CTxn) : DTxn Int := (t.raw, t.category, t.amount)

private theorem discoverG_map {ρ : Type} (classify : ρ → String) (raw : ρ → String) (cents : ρ → Int) (rows : List ρ) :
    discoverG intNum (rows.map fun r => (raw r, classify r, cents r)) =
      accumFrom raw (0, 0) (fun r p => (p.1 + 1, p.2 + absI (cents r))) [] (rows.filter fun r => classify r == "Unknown") := by
  unfold discoverG accumFrom
  rw [List.filter_map, List.foldl_map]
  rfl

theorem discoverG_eq_discover (txns : List CTxn) : discoverG intNum (txns.map toD) = discover txns :=
  discoverG_map (·.category) (·.raw) (·.amount) txns

private theorem fold_group {ρ : Type} (cents : ρ → Int) (l : List ρ) (c : Nat) (s : Int) :
    l.foldl (fun b r => (b.1 + 1, b.2 + absI (cents r))) (c, s) = (c + l.length, s + sumBy (fun r => absI (cents r)) l) := by
  induction l generalizing c s with
  | nil => simp
  | cons t l ih =>
    simp only [List.foldl_cons, ih, List.length_cons, sumBy_cons]
    simp only [Prod.mk.injEq]; constructor <;> omega

/-- `discover` on a statement classified row by row (every row with ITS date, source, location and captured
columns — `classify` is any function of the whole row): a description is listed exactly when some row carrying it
is left Unknown, with the number of those rows and the sum of their |amount|.  In particular two rows with the
same text and amount are counted separately, each under its own classification. -/
theorem discover_row_by_row {ρ : Type} (classify : ρ → String) (raw : ρ → String) (cents : ρ → Int) (rows : List ρ) (d : String) :
    (discoverG intNum (rows.map fun r => (raw r, classify r, cents r))).lookup d =
      let us := rows.filter (fun r => classify r == "Unknown" && raw r == d)
      if us.isEmpty then none else some (us.length, sumBy (fun r => absI (cents r)) us) := by
  rw [discoverG_map, lookup_accum, List.filter_filter, fold_group]
  have hf : (fun r => raw r == d && classify r == "Unknown") = fun r => classify r == "Unknown" && raw r == d :=
    funext fun r => Bool.and_comm _ _
  rw [hf]
  simp

/-- a description is listed by discover exactly when `up` leaves at least one transaction with that
description Unknown, and then with exactly their count and total -/
theorem discover_eq_unknown (txns : List CTxn) (d : String) :
    (discover txns).lookup d =
      let us := txns.filter (fun t => t.category == "Unknown" && t.raw == d)
      if us.isEmpty then none else some (us.length, sumBy (fun t => absI t.amount) us) := by
  rw [← discoverG_eq_discover]
  exact discover_row_by_row (·.category) (·.raw) (·.amount) txns d

/-- nothing that `up` categorised is listed -/
theorem categorised_not_listed (txns : List CTxn) (d : String)
    (h : ∀ t ∈ txns, t.raw = d → t.category ≠ "Unknown") : (discover txns).lookup d = none := by
  rw [discover_eq_unknown]
  have : txns.filter (fun t => t.category == "Unknown" && t.raw == d) = [] := by
    rw [List.filter_eq_nil_iff]
    intro t ht
    simp only [Bool.and_eq_true, beq_iff_eq, not_and]
    intro hc hr; exact h t ht hr hc
  simp [this]

/-- the counts discover prints add up to the number of Unknown transactions -/
theorem discover_counts (txns : List CTxn) :
    sumCounts (discover txns) = (txns.filter (fun t => t.category == "Unknown")).length :=
  sumCounts_accumFrom _ _ _ (fun _ => rfl) (fun _ _ => rfl) _

/-! ### what the classification depends on (why no shortcut over "the statement line" or "the rules' text" is sound)

Kernel-checked witnesses on the engine model (`Engine.matchTxn` = `MerchantEngine.match`, the function `up`,
`discover` and `explain` all go through).  The same two situations are generated at random by the check and run
through the three commands. -/

def noOracles : Oracles := ⟨fun _ => none, fun _ => none, fun _ _ => none, fun _ _ => none, fun _ _ _ => none,
  fun _ _ => none, fun _ => none, fun _ => none, fun _ _ => none, fun _ _ => none⟩
def key0 : Rule → Key := fun r => ⟨r.priority, 0, 0, 0⟩

/-- `[Weekend Parking]  match: weekday >= 5  category: Parking` -/
def weekendRule : RuleX :=
  { rule := ⟨1, "Weekend Parking", "Weekend Parking", "Parking", "", 50, "weekday >= 5"⟩, lets := [],
    matchE := some (.cmp (.name "weekday") [.mk .ge (.const (.int 5))]), tags := [], fields := [] }

/-- one statement line (same source, text, amount, location, captured columns) on a given date -/
def parkingOn (d : Date) : Ctx := ⟨"CITY PARKING GARAGE 12", .int 12, some d, "Src0", "", none, [], [], []⟩

/-- The classification of a transaction depends on its DATE: the same statement line is categorised on Saturday
2025-01-04 and left Unknown on Monday 2025-01-06. -/
theorem classification_depends_on_date :
    resultTag (matchTxn true true key0 noOracles (parkingOn ⟨2025, 1, 4⟩) .firstMatch [] [weekendRule]) = "Weekend Parking|Parking||" ∧
    resultTag (matchTxn true true key0 noOracles (parkingOn ⟨2025, 1, 6⟩) .firstMatch [] [weekendRule]) = "|||" := by
  decide +kernel

/-- Hence no memo of the classification whose key ignores the date agrees with `up`: for every such key there are
rules and two transactions with the same key and different classifications. -/
theorem no_sound_memo_without_date {κ : Type} (k : Ctx → κ) (hk : ∀ (c : Ctx) (d : Option Date), k { c with date := d } = k c) :
    ∃ (rules : List RuleX) (c₁ c₂ : Ctx), k c₁ = k c₂ ∧
      resultTag (matchTxn true true key0 noOracles c₁ .firstMatch [] rules) ≠
      resultTag (matchTxn true true key0 noOracles c₂ .firstMatch [] rules) := by
  refine ⟨[weekendRule], parkingOn ⟨2025, 1, 4⟩, parkingOn ⟨2025, 1, 6⟩, ?_, ?_⟩
  · exact (hk (parkingOn ⟨2025, 1, 4⟩) (some ⟨2025, 1, 6⟩)).symm
  · rw [classification_depends_on_date.1, classification_depends_on_date.2]; decide

/-- `has_order = any(r.amount == amount for r in orders)` as a TOP-LEVEL variable and
`[Ordered]  match: has_order  category: Orders`: no rule expression names the supplemental source -/
def hasOrder : String × PExpr :=
  ("has_order", some (.callNameGen "any" (.cmp (.attrName "r" "amount") [.mk .eq (.name "amount")])
                        [.mk (some "r") (.name "orders") []] []))
def orderedRule : RuleX :=
  { rule := ⟨3, "Ordered", "Ordered", "Orders", "", 50, "has_order"⟩, lets := [],
    matchE := some (.name "has_order"), tags := [], fields := [] }
def chargeWith (sources : List (String × Val)) : Ctx := ⟨"AMAZON MKTPL", .int 1599, none, "", "", none, [], sources, []⟩
def orderRows : List (String × Val) := [("orders", .list [.row [("item", .str "Book"), ("amount", .int 1599)]])]

/-- The classification depends on the rows of a supplemental source that is named ONLY in a top-level variable:
with the rows the rule applies, without them the variable cannot be evaluated and the transaction stays Unknown.
(A command that decides from the rules' own expressions whether to read the supplemental files is wrong.) -/
theorem classification_depends_on_source_named_in_variable :
    resultTag (matchTxn true true key0 noOracles (chargeWith orderRows) .firstMatch [hasOrder] [orderedRule]) = "Ordered|Orders||" ∧
    resultTag (matchTxn true true key0 noOracles (chargeWith []) .firstMatch [hasOrder] [orderedRule]) = "|||" := by
  decide +kernel

/-! non-vacuity -/
def ex : List CTxn := [⟨"UBER TRIP", "Transport", 1200⟩, ⟨"NEW SHOP 1", "Unknown", 500⟩, ⟨"NEW SHOP 1", "Unknown", -250⟩,
  ⟨"OTHER", "Unknown", 100⟩, ⟨"NEW SHOP 1", "Food", 900⟩]
example : (discover ex).lookup "NEW SHOP 1" = some (2, 750) ∧ (discover ex).lookup "UBER TRIP" = none ∧ sumCounts (discover ex) = 3 := by
  decide +kernel

end TallyVerif.Props.C16
