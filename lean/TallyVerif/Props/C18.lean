/-
C18 — a format string maps columns by position, and inspect's suggestion round-trips.

Clause 1: a well-formed arrangement of columns, in any spelling of the class `SpOK`, parses to its own positions (`parse_render`);
conversely, for arbitrary strings, what an accepted string maps is where it is written (`parse_positions`,
`nonreserved_name_is_captured_at_its_position`).  Clause 2: the `rejects_*` theorems, for arbitrary strings.  Clause 3: the format
string `tally inspect` suggests for a detected header row parses back to the detected columns (`inspect_roundtrip`), header
detection being a first fit, role by role (`detect_first_fit`).
-/
import TallyVerif.Lemmas.FmtInspect

namespace TallyVerif.Props.C18
open TallyVerif.Fmt TallyVerif.Fmt.Spec TallyVerif.Gen

/-- Clause 1. For EVERY arrangement `cols` (any width) of date / description / amount / location / custom / skipped
columns that is well-formed, and EVERY spelling of it in the class `SpOK` (blanks before the brace, letter case,
`{_}`/`{*}`, ignored `+`/`-` prefixes and `:spec`s, any comma-free text after the closing brace, any writable
date format), and for whatever CPython does with non-ASCII text (`e`), the format string that lists the columns in
order parses to exactly the arrangement's positions, date format and sign mode. -/
theorem parse_render (e : Ext) (scs : List (Col × Sp)) (tmpl : Option Str)
    (hsp : ∀ p ∈ scs, SpOK e p = true) (hwf : WellFormed e (scs.map Prod.fst) tmpl) :
    Impl.parseFormat e (render scs) tmpl = .ok (specOf (scs.map Prod.fst) tmpl) := by
  have ⟨hnf, hnc, hres, hdate, _⟩ := hwf
  have hne : scs.map renderCol ≠ [] := fun h => by simp [List.map_eq_nil_iff.mp h] at hdate
  have hsplit : splitComma (render scs) = scs.map renderCol := by
    apply splitComma_joinComma _ hne
    intro s hs
    obtain ⟨p, hp, rfl⟩ := List.mem_map.mp hs
    exact renderCol_no_comma e p (hsp p hp)
  have hloop := loop_render e scs 0 St.init hsp hres
    (by simpa [St.init, keys] using hnf) (by simpa [St.init, keys] using hnc)
  unfold Impl.parseFormat
  rw [hsplit, hloop]
  exact finish_spec hwf

/-! ### rejection: stated for ARBITRARY format strings `s` (not only rendered arrangements).
`tokName e p` is the lower-cased name the parser reads in the comma-separated piece `p` (if it matches at all). -/

/-- the parser raises `ValueError` -/
def Rejected (r : Except Err FormatSpec) : Prop := ∃ err, r = .error err

private theorem rejected_of_not_ok {r : Except Err FormatSpec} (h : ∀ spec, r ≠ .ok spec) : Rejected r := by
  cases r with
  | error err => exact ⟨err, rfl⟩
  | ok spec => exact absurd rfl (h spec)

/-- Clause 2a. A string with a missing required field is rejected: if no piece is a `date` token, or no piece is an
`amount` token, `parse_format_string` raises — whatever else the string contains. -/
theorem rejects_missing_required (e : Ext) (s : Str) (tmpl : Option Str)
    (h : (∀ p ∈ splitComma s, tokName e p ≠ some sDate) ∨ (∀ p ∈ splitComma s, tokName e p ≠ some sAmount)) :
    Rejected (Impl.parseFormat e s tmpl) :=
  rejected_of_not_ok fun _ hok =>
    have ⟨p, hp, hd⟩ := (parseFormat_accepted hok).date
    have ⟨q, hq, ha⟩ := (parseFormat_accepted hok).amount
    h.elim (fun h => h p hp hd) (fun h => h q hq ha)

/-- Clause 2b. A duplicate is rejected: two pieces (anywhere in the string) that read as the same name — a reserved
field or a custom capture, in any letter case — make the parser raise. Only `{_}` / `{*}` may repeat. -/
theorem rejects_duplicate (e : Ext) (s : Str) (tmpl : Option Str) (A B C : List Str) (p q : Str) (n : Str)
    (hs : splitComma s = A ++ p :: (B ++ q :: C))
    (hp : tokName e p = some n) (hq : tokName e q = some n) (hn1 : n ≠ sUnderscore) (hn2 : n ≠ sStar) :
    Rejected (Impl.parseFormat e s tmpl) :=
  rejected_of_not_ok fun _ hok => ((parseFormat_accepted hok).noDuplicate A B C p q n hs hp hq).elim hn1 hn2

/-- Clause 2c. A description template naming an uncaptured column is rejected: if the template (present and
non-empty) references `{r}` and either no piece of the format string is named `r`, or the string has a
`{description}` column (then captures are extra fields, not template captures), the parser raises. -/
theorem rejects_uncaptured_template_ref (e : Ext) (s : Str) (tmpl : Option Str) (r : Str)
    (hr : r ∈ refsOf e tmpl)
    (h : (∀ p ∈ splitComma s, tokName e p ≠ some r) ∨ (∃ p ∈ splitComma s, tokName e p = some sDescription)) :
    Rejected (Impl.parseFormat e s tmpl) :=
  rejected_of_not_ok fun _ hok =>
    have ⟨⟨p, hp, hn⟩, hnd⟩ := (parseFormat_accepted hok).refs r hr
    h.elim (fun h => h p hp hn) (fun ⟨q, hq, hqd⟩ => hnd q hq hqd)

/-- Clause 2d. Custom captures without a description template are rejected — in fact any string without a
`description` token is rejected when the template is missing or empty. -/
theorem rejects_custom_without_template (e : Ext) (s : Str) (tmpl : Option Str)
    (ht : Impl.tmplAbsent tmpl = true) (h : ∀ p ∈ splitComma s, tokName e p ≠ some sDescription) :
    Rejected (Impl.parseFormat e s tmpl) :=
  rejected_of_not_ok fun _ hok =>
    (parseFormat_accepted hok).descriptionOrTemplate.elim (fun ⟨p, hp, hd⟩ => h p hp hd)
      (fun hta => by rw [ht] at hta; cases hta)

/-- A piece that is not a token at all is rejected (the "bad token" class): the whole string is. -/
theorem rejects_invalid_token (e : Ext) (s : Str) (tmpl : Option Str) (p : Str)
    (hp : p ∈ splitComma s) (hbad : tokName e p = none) : Rejected (Impl.parseFormat e s tmpl) :=
  rejected_of_not_ok fun _ hok => (parseFormat_accepted hok).tokens p hp hbad

/-- Clause 1, converse direction, for ARBITRARY format strings: whenever `parse_format_string` accepts a string, every
position in the returned spec is the index of the comma-separated piece that carries that name — the date column is a
piece that reads `date`, the amount column one that reads `amount`, likewise description, location, and every
`(name, index)` among the custom captures / extra fields. (`NamedAt e parts i k`: piece `i` exists and reads `k`.) -/
theorem parse_positions (e : Ext) (s : Str) (tmpl : Option Str) (spec : FormatSpec)
    (h : Impl.parseFormat e s tmpl = .ok spec) :
    NamedAt e (splitComma s) spec.dateColumn sDate ∧ NamedAt e (splitComma s) spec.amountColumn sAmount ∧
    (∀ i, spec.descriptionColumn = some i → NamedAt e (splitComma s) i sDescription) ∧
    (∀ i, spec.locationColumn = some i → NamedAt e (splitComma s) i sLocation) ∧
    (∀ d, spec.customCaptures = some d → ∀ n i, (n, i) ∈ d → NamedAt e (splitComma s) i n) ∧
    (∀ d, spec.extraFields = some d → ∀ n i, (n, i) ∈ d → NamedAt e (splitComma s) i n) := by
  obtain ⟨st, hl, hf⟩ := parseFormat_ok h
  obtain ⟨_, _, d, a, hd, ha, rfl⟩ := finish_ok hf
  have cst : ∀ d, (some d = some st.customs) → ∀ n i, (n, i) ∈ d → NamedAt e (splitComma s) i n := by
    rintro _ ⟨⟩ n i hni; exact ((loop_ok_mem hl _ _).2.mp hni).2
  refine ⟨loop_ok_lookup hl hd, loop_ok_lookup hl ha, fun i => loop_ok_lookup hl, fun i => loop_ok_lookup hl, ?_, ?_⟩
  -- template captures, then extra fields: each is `st.customs` or nothing
  · intro d hdd; dsimp only at hdd; split at hdd
    · cases hdd
    · exact cst d hdd.symm
  · intro d hdd; dsimp only at hdd; split at hdd
    · exact cst d hdd.symm
    · cases hdd

/-- Clause 1, forward direction, for ARBITRARY format strings: **a name that is not reserved is an ordinary capture at the position
where it is written** - whatever it looks like (`desc`, `amt`, `loc`, `dates`, `description2`, `amount_usd`, `field1`, any letter
case: the only names treated specially are the seven of `RESERVED_NAMES`).  If the parser accepts `s` and piece `i` reads the name
`n ∉ RESERVED_NAMES`, then: without a `description` piece the string is in Mode 2 and `(n, i)` is one of its template captures (no
description column, no extra fields); with a `description` piece `(n, i)` is one of the extra fields (no template captures); and in
both cases column `i` is none of the date / amount / description / location columns. -/
theorem nonreserved_name_is_captured_at_its_position (e : Ext) (s : Str) (tmpl : Option Str) (spec : FormatSpec)
    (h : Impl.parseFormat e s tmpl = .ok spec) (i : Nat) (n : Str)
    (hn : NamedAt e (splitComma s) i n) (hres : n ∉ FmtTables.RESERVED_NAMES) :
    ((∀ p ∈ splitComma s, tokName e p ≠ some sDescription) →
        spec.descriptionColumn = none ∧ spec.extraFields = none ∧ ∃ d, spec.customCaptures = some d ∧ (n, i) ∈ d) ∧
    ((∃ p ∈ splitComma s, tokName e p = some sDescription) →
        spec.customCaptures = none ∧ ∃ d, spec.extraFields = some d ∧ (n, i) ∈ d) ∧
    spec.dateColumn ≠ i ∧ spec.amountColumn ≠ i ∧ spec.descriptionColumn ≠ some i ∧ spec.locationColumn ≠ some i := by
  obtain ⟨st, hl, hf⟩ := parseFormat_ok h
  have hmem : (n, i) ∈ st.customs := (loop_ok_mem hl _ _).2.mpr ⟨hres, hn⟩
  have hne : st.customs ≠ [] := List.ne_nil_of_mem hmem
  obtain ⟨pD, pA, pS, pL, _⟩ := parse_positions e s tmpl spec h
  obtain ⟨_, _, d, a, _, _, rfl⟩ := finish_ok hf
  have hD := loop_ok_description hl
  -- piece `i` reads one name only, so it is none of the reserved columns
  have hno : ∀ k, k ∈ FmtTables.RESERVED_NAMES → ¬ NamedAt e (splitComma s) i k := fun k hk hna => hres (hna.unique hn ▸ hk)
  refine ⟨?_, ?_, fun hc => hno _ (by decide) (hc ▸ pD), fun hc => hno _ (by decide) (hc ▸ pA),
    fun hc => hno _ (by decide) (pS i hc), fun hc => hno _ (by decide) (pL i hc)⟩
  · intro hnd
    have hD' : sDescription ∉ keys st.fields := fun hd => by
      obtain ⟨p, hp, hpn⟩ := hD.mp hd; exact hnd p hp hpn
    have hl0 : lookup sDescription st.fields = none := by
      simpa [← Option.not_isSome_iff_eq_none, ← contains_keys] using hD'
    exact ⟨hl0, by simp [hD'], st.customs, by simp [hD', hne], hmem⟩
  · intro hp
    have hD' := hD.mpr hp
    exact ⟨by simp [hD'], st.customs, by simp [hD', hne], hmem⟩

/-! ### clause 3: inspect's suggestion round-trips -/

/-- The suggestion builder alone: for ANY detected spec whose columns are pairwise distinct and whose date format is
writable (non-empty, no `}` / `,`), the suggested format string is accepted (no template needed) and selects exactly
the date / description / amount / location columns and the date format it was built from. -/
theorem suggest_roundtrip (e : Ext) (sp : Impl.DetectSpec) (hd : Distinct sp)
    (hfmt : okSpec (some sp.dateFormat) = true) :
    ∃ spec, Impl.parseFormat e (Impl.suggest sp) none = .ok spec ∧
      spec.dateColumn = sp.dateColumn ∧ spec.dateFormat = sp.dateFormat ∧
      spec.descriptionColumn = some sp.descriptionColumn ∧ spec.amountColumn = sp.amountColumn ∧
      spec.locationColumn = sp.locationColumn := by
  have hp := parse_render e (scsOf sp) none (SpOK_scsOf e sp hfmt) (wellFormed_suggest e sp hd)
  rw [← suggest_eq_render] at hp
  exact ⟨_, hp, specOf_suggest sp hd⟩

/-- Clause 3. For EVERY header row (any number of headers, any text, whatever CPython's `lower`/`strip` do to
non-ASCII headers): if auto-detection succeeds and reports `sp`, then the format string `tally inspect` suggests
is accepted by the parser and selects the same date, description and amount columns (and location column and date
format) that inspect reported. -/
theorem inspect_roundtrip (e : Ext) (headers : List Str) (sp : Impl.DetectSpec)
    (h : Impl.detect e headers = .ok sp) :
    ∃ spec, Impl.parseFormat e (Impl.suggest sp) none = .ok spec ∧
      spec.dateColumn = sp.dateColumn ∧ spec.descriptionColumn = some sp.descriptionColumn ∧
      spec.amountColumn = sp.amountColumn ∧ spec.locationColumn = sp.locationColumn ∧
      spec.dateFormat = sp.dateFormat := by
  have hfmt : okSpec (some sp.dateFormat) = true := by rw [(detect_ok h).2]; decide     -- the detected constant is writable
  obtain ⟨spec, hok, hdate, hdf, hdesc, hamt, hloc⟩ := suggest_roundtrip e sp (detect_distinct h) hfmt
  exact ⟨spec, hok, hdate, hdesc, hamt, hloc, hdf⟩

/-- the detected columns are pairwise distinct (one role per header: the `elif` chain) -/
theorem detect_columns_distinct (e : Ext) (headers : List Str) (sp : Impl.DetectSpec)
    (h : Impl.detect e headers = .ok sp) :
    sp.dateColumn ≠ sp.descriptionColumn ∧ sp.dateColumn ≠ sp.amountColumn ∧
    sp.descriptionColumn ≠ sp.amountColumn := by
  obtain ⟨h1, h2, h3, _⟩ := detect_distinct h
  exact ⟨h1, h2, h3⟩

/-- … and the optional location column is none of them: NO column is reported for two roles. -/
theorem detect_location_distinct (e : Ext) (headers : List Str) (sp : Impl.DetectSpec)
    (h : Impl.detect e headers = .ok sp) (l : Nat) (hl : sp.locationColumn = some l) :
    l ≠ sp.dateColumn ∧ l ≠ sp.descriptionColumn ∧ l ≠ sp.amountColumn := by
  exact (detect_distinct h).2.2.2 l hl

/-- **Each header fills at most one role** (any header text - also one that carries keywords of two or three roles, like
`Payment Date` or `Merchant Name Date` - any state): one pass of the detection loop leaves the state unchanged or fills exactly ONE
slot, which was empty, with this header's index. -/
theorem detect_header_fills_at_most_one_role (e : Ext) (idx : Nat) (d : Impl.Detected) (hdr : Str) :
    Impl.detectStep e idx d hdr = d ∨
    (d.date = none ∧ Impl.detectStep e idx d hdr = { d with date := some idx }) ∨
    (d.desc = none ∧ Impl.detectStep e idx d hdr = { d with desc := some idx }) ∨
    (d.amount = none ∧ Impl.detectStep e idx d hdr = { d with amount := some idx }) ∨
    (d.location = none ∧ Impl.detectStep e idx d hdr = { d with location := some idx }) := by
  -- the guard of the branch that fires says that its slot was empty
  have slot : ∀ {o : Option Nat} {b : Bool}, (o.isNone && b) = true → o = none :=
    fun h => Option.isNone_iff_eq_none.mp (Bool.and_eq_true_iff.mp h).1
  fun_cases Impl.detectStep e idx d hdr
  case case1 hc => exact .inr (.inl ⟨slot hc, rfl⟩)                      -- the `if`: date
  case case2 hc => exact .inr (.inr (.inl ⟨slot hc, rfl⟩))               -- the `elif`s: description,
  case case3 hc => exact .inr (.inr (.inr (.inl ⟨slot hc, rfl⟩)))        -- amount,
  case case4 hc => exact .inr (.inr (.inr (.inr ⟨slot hc, rfl⟩)))        -- location
  case case5 => exact .inl rfl                                           -- no branch fired

/-- **Detection is a first fit, role by role** (the oracle `first_fit` of the check, proved for every header row): when detection
succeeds, the date column is the FIRST header carrying a date keyword; the description column is the first header carrying a
description keyword other than the date column; the amount column the first header carrying an amount keyword other than those two;
the location column (when reported) the first header carrying a location keyword other than those three, and when none is
reported every header carrying a location keyword serves one of the three required roles.  Which role a header serves never depends
on the headers to its right. -/
theorem detect_first_fit (e : Ext) (headers : List Str) (sp : Impl.DetectSpec) (h : Impl.detect e headers = .ok sp) :
    (HeaderMatches e headers FmtTables.DATE_PATTERNS sp.dateColumn ∧
      ∀ j, j < sp.dateColumn → ¬ HeaderMatches e headers FmtTables.DATE_PATTERNS j) ∧
    (HeaderMatches e headers FmtTables.DESC_PATTERNS sp.descriptionColumn ∧
      ∀ j, j < sp.descriptionColumn → HeaderMatches e headers FmtTables.DESC_PATTERNS j → j = sp.dateColumn) ∧
    (HeaderMatches e headers FmtTables.AMOUNT_PATTERNS sp.amountColumn ∧
      ∀ j, j < sp.amountColumn → HeaderMatches e headers FmtTables.AMOUNT_PATTERNS j →
        j = sp.dateColumn ∨ j = sp.descriptionColumn) ∧
    (∀ l, sp.locationColumn = some l → HeaderMatches e headers FmtTables.LOCATION_PATTERNS l ∧
      ∀ j, j < l → HeaderMatches e headers FmtTables.LOCATION_PATTERNS j →
        j = sp.dateColumn ∨ j = sp.descriptionColumn ∨ j = sp.amountColumn) ∧
    (sp.locationColumn = none → ∀ j, HeaderMatches e headers FmtTables.LOCATION_PATTERNS j →
        j = sp.dateColumn ∨ j = sp.descriptionColumn ∨ j = sp.amountColumn) := by
  obtain ⟨h1, h2, h3, h4⟩ := detect_firstFit h
  have sj : ∀ {a b : Nat}, some a = some b → a = b := Option.some.inj
  obtain ⟨m1, _, f1⟩ := h1.filled _ rfl
  obtain ⟨m2, _, f2⟩ := h2.filled _ rfl
  obtain ⟨m3, _, f3⟩ := h3.filled _ rfl
  simp only [List.mem_cons, List.not_mem_nil, or_false] at f1 f2 f3
  refine ⟨⟨m1, f1⟩, ⟨m2, fun j hj hm => sj (f2 j hj hm)⟩, ⟨m3, fun j hj hm => (f3 j hj hm).symm.imp sj sj⟩, ?_, ?_⟩
  · intro l hl
    obtain ⟨m4, _, f4⟩ := h4.filled l hl
    simp only [List.mem_cons, List.not_mem_nil, or_false] at f4
    exact ⟨m4, fun j hj hm => by rcases f4 j hj hm with h | h | h <;> simp [sj h]⟩
  · intro hl j hm
    have f4 := h4.empty hl j hm
    simp only [List.mem_cons, List.not_mem_nil, or_false] at f4
    rcases f4 with h | h | h <;> simp [sj h]

/-- **Detection fails only when a required role has no header of its own**: if a non-empty header row is not detected, then no header
carries a date keyword, or every header carrying a description keyword is the one taken as date column, or every header carrying an
amount keyword is the one taken as date or description column (`d` is the loop's final state).  It is reported as an error value -
the `ValueError` of the code - never anything else. -/
theorem detect_fails_only_when_a_required_role_is_unserved (e : Ext) (headers : List Str) (hne : headers ≠ []) :
    (∃ sp, Impl.detect e headers = .ok sp) ∨
    (Impl.detect e headers = .error .missing ∧
      let d := Impl.detectLoop e 0 ⟨none, none, none, none⟩ headers
      ((∀ j, ¬ HeaderMatches e headers FmtTables.DATE_PATTERNS j) ∨
       (∀ j, HeaderMatches e headers FmtTables.DESC_PATTERNS j → d.date = some j) ∨
       (∀ j, HeaderMatches e headers FmtTables.AMOUNT_PATTERNS j → d.date = some j ∨ d.desc = some j))) := by
  have hff := firstFit_detectLoop e headers
  unfold Impl.detect
  rw [List.isEmpty_eq_false_iff.mpr hne]
  simp only [Bool.false_eq_true, if_false]
  generalize Impl.detectLoop e 0 ⟨none, none, none, none⟩ headers = d at hff ⊢
  obtain ⟨dd, ds, da, dl⟩ := d
  obtain ⟨h1, h2, h3, _⟩ := hff
  cases dd with
  | none => exact Or.inr ⟨rfl, Or.inl fun j hj => by simpa using h1.empty rfl j hj⟩
  | some x =>
    cases ds with
    | none => exact Or.inr ⟨rfl, Or.inr (Or.inl fun j hj => by simpa [eq_comm] using h2.empty rfl j hj)⟩
    | some y =>
      cases da with
      | none => exact Or.inr ⟨rfl, Or.inr (Or.inr fun j hj => by simpa [eq_comm, or_comm] using h3.empty rfl j hj)⟩
      | some z => exact Or.inl ⟨_, rfl⟩

/-! ### what inspect may put into its suggestion: a date format with a comma can never round-trip

`tally inspect` reports a date format and writes it into the suggested format string.  The round trip of clause 3 needs that
format to be WRITABLE (`suggest_roundtrip`'s hypothesis; the detected constant is, by computation, in `inspect_roundtrip`).
The converse, for every format string whatsoever: no accepted string carries a date format with a comma in it, because
the string is cut at every comma before any token is read.  So a suggestion built around `%b %d, %Y` (the shape
`Jan 05, 2025` of card and brokerage exports) cannot give that format back, whatever else it contains. -/

/-- **No format string yields a date format that contains a comma** (any string, any template, any `Ext`): the date format of an
accepted string is the default or the `:spec` of one comma-separated piece. -/
theorem accepted_date_format_has_no_comma (e : Ext) (s : Str) (tmpl : Option Str) (spec : FormatSpec)
    (h : Impl.parseFormat e s tmpl = .ok spec) : ',' ∉ spec.dateFormat := by
  obtain ⟨st, hl, hf⟩ := parseFormat_ok h
  obtain ⟨_, _, d, a, _, _, rfl⟩ := finish_ok hf
  show ',' ∉ st.dateFormat
  rcases loop_dateFormat hl with h0 | ⟨p, hp, t, hm, ht⟩
  · rw [h0]; decide
  · -- the comma would be in the `:spec` of a token, so in the stripped piece, so in a piece of `splitComma s`
    intro hc
    obtain ⟨r, hr⟩ := matchTok_some hm
    exact splitComma_no_comma s p hp (strip_subset e p _ (by simp [hr, ht, tokText, specChars, hc]))

/-- **A reported date format with a comma never round-trips**: for EVERY detected spec (any columns) whose date format contains a
comma, no parse of the suggested format string gives that date format back — the suggestion is rejected or reads another
format.  (On the real parser it is rejected: the example `{date:%b %d, %Y}, {description}, {amount}` below.) -/
theorem comma_date_format_never_roundtrips (e : Ext) (sp : Impl.DetectSpec) (hc : ',' ∈ sp.dateFormat) :
    ¬ ∃ spec, Impl.parseFormat e (Impl.suggest sp) none = .ok spec ∧ spec.dateFormat = sp.dateFormat := by
  rintro ⟨spec, hok, hfmt⟩
  exact accepted_date_format_has_no_comma e _ none spec hok (hfmt ▸ hc)

/-! ### non-vacuity: concrete inputs satisfying the hypotheses (and the excluded region, on the model) -/

instance {ε α : Type} [DecidableEq ε] [DecidableEq α] : DecidableEq (Except ε α) := fun a b =>
  match a, b with
  | .ok x, .ok y => if h : x = y then isTrue (by rw [h]) else isFalse (fun h' => h (Except.ok.inj h'))
  | .error x, .error y => if h : x = y then isTrue (by rw [h]) else isFalse (fun h' => h (Except.error.inj h'))
  | .ok _, .error _ => isFalse (fun h => by cases h)
  | .error _, .ok _ => isFalse (fun h => by cases h)

/-- CPython restricted to ASCII input (nothing non-ASCII is consulted in the examples) -/
def asciiExt : Ext := ⟨fun _ => false, fun _ => false, id⟩

/-- `  {Date:%Y-%m-%d} x,\t{*},{-AMOUNT:ignored},{+merchant} ,{_} tail,{Type},{LOCATION}` with template `{merchant} ({type})` -/
def sampleArrangement : List (Col × Sp) :=
  [(.date (some "%Y-%m-%d".toList), ⟨[' ', ' '], none, "Date".toList, none, " x".toList⟩),
   (.skip, ⟨['\t'], none, ['*'], none, []⟩),
   (.amount .negate, ⟨[], none, "AMOUNT".toList, some "ignored".toList, []⟩),
   (.custom "merchant".toList, ⟨[], some '+', "merchant".toList, none, [' ']⟩),
   (.skip, ⟨[], none, ['_'], none, " tail".toList⟩),
   (.custom "type".toList, ⟨[], none, "Type".toList, none, []⟩),
   (.location, ⟨[], none, "LOCATION".toList, none, []⟩)]

def sampleTemplate : Option Str := some "{merchant} ({type})".toList

example : (∀ p ∈ sampleArrangement, SpOK asciiExt p = true) := by
  -- hand the kernel character lists: it decodes a string literal at a cost quadratic in its length
  unfold sampleArrangement; repeat rw [String.toList_ofList]
  decide +kernel
example : WellFormed asciiExt (sampleArrangement.map Prod.fst) sampleTemplate := by
  unfold sampleArrangement sampleTemplate; repeat rw [String.toList_ofList]
  decide +kernel
example : String.ofList (render sampleArrangement) =
    "  {Date:%Y-%m-%d} x,\t{*},{-AMOUNT:ignored},{+merchant} ,{_} tail,{Type},{LOCATION}" := by
  apply String.ext; unfold sampleArrangement; repeat rw [String.toList_ofList]
  decide +kernel
example : Impl.parseFormat asciiExt (render sampleArrangement) sampleTemplate =
    .ok { dateColumn := 0, dateFormat := "%Y-%m-%d".toList, amountColumn := 2, descriptionColumn := none,
          customCaptures := some [("merchant".toList, 3), ("type".toList, 5)], descriptionTemplate := sampleTemplate,
          extraFields := none, locationColumn := some 6, negateAmount := true, absAmount := false } := by
  unfold sampleArrangement sampleTemplate; repeat rw [String.toList_ofList]
  decide +kernel

/-- rejections on concrete strings (each hypothesis is satisfiable) -/
example : Impl.parseFormat asciiExt "{date}, {description}".toList none = .error .missingRequired := by
  rw [String.toList_ofList]; decide +kernel
example : Impl.parseFormat asciiExt "{date}, {amount}, {Date}, {description}".toList none = .error (.dupField 2) := by
  rw [String.toList_ofList]; decide +kernel
example : Impl.parseFormat asciiExt "{date}, {amount}, {a}, {A}".toList (some "{a}".toList) = .error (.dupCustom 3) := by
  rw [String.toList_ofList]; decide +kernel
example : Impl.parseFormat asciiExt "{date}, {amount}, {merchant}".toList (some "{merchant} {type}".toList)
    = .error (.uncapturedRef "type".toList) := by
  rw [String.toList_ofList, String.toList_ofList]; decide +kernel
example : Impl.parseFormat asciiExt "{date}, {amount}, {merchant}".toList none = .error .needTemplate := by
  rw [String.toList_ofList]; decide +kernel
example : tokName asciiExt " {Description:x} junk".toList = some sDescription := by
  rw [String.toList_ofList]; decide +kernel
example : (Impl.parseFormat asciiExt "{_}, {Amount}, {*}, {DATE}, {description}".toList none).toOption.map
    (fun s => (s.dateColumn, s.amountColumn, s.descriptionColumn)) = some (3, 1, some 4) := by
  rw [String.toList_ofList]; decide +kernel

/-- the excluded date formats, on the model: a `,` splits the token (rejected); a `}` silently ends the format -/
example : Impl.parseFormat asciiExt "{date:%b %d, %Y}, {description}, {amount}".toList none = .error (.invalidToken 0) := by
  rw [String.toList_ofList]; decide +kernel
example : (Impl.parseFormat asciiExt "{date:a}b}, {description}, {amount}".toList none).toOption.map (·.dateFormat)
    = some ['a'] := by
  rw [String.toList_ofList]; decide +kernel

/-- the hypothesis of `comma_date_format_never_roundtrips` on the witness of the class: dates like `Jan 05, 2025`; the suggestion
built for columns (0, 1, 2) is the string of the example above, and it is rejected -/
example : ',' ∈ (⟨0, "%b %d, %Y".toList, 1, 2, none⟩ : Impl.DetectSpec).dateFormat := by decide +kernel
example : Impl.parseFormat asciiExt (Impl.suggest ⟨0, "%b %d, %Y".toList, 1, 2, none⟩) none = .error (.invalidToken 0) := by
  rw [String.toList_ofList]; decide +kernel

/-- header detection and the suggestion on a concrete header row -/
def sampleHeaders : List Str :=
  ["Posting Date", "Reference", "Merchant Name", "City/State", "Transaction Amount"].map String.toList

example : Impl.detect asciiExt sampleHeaders = .ok ⟨0, FmtTables.DETECT_DATE_FORMAT, 2, 4, some 3⟩ := by
  simp only [sampleHeaders, List.map_cons, List.map_nil]; repeat rw [String.toList_ofList]
  decide +kernel
example : String.ofList (Impl.suggest ⟨0, FmtTables.DETECT_DATE_FORMAT, 2, 4, some 3⟩)
    = "{date:%m/%d/%Y}, {_}, {description}, {location}, {amount}" := by
  apply String.ext; rw [String.toList_ofList, String.toList_ofList]; decide +kernel

/-- near misses of the reserved words are NOT reserved (the hypothesis of `nonreserved_name_is_captured_at_its_position`) … -/
example : ∀ n ∈ ["desc", "amt", "loc", "dt", "dates", "descriptions", "description2", "amount_usd", "locations", "field1", "fields",
    "__", "_1"].map String.toList, n ∉ FmtTables.RESERVED_NAMES := by
  simp only [List.map_cons, List.map_nil]; repeat rw [String.toList_ofList]
  decide +kernel
/-- … and are captures at their written positions: Mode 2 (template captures) and Mode 1 (extra fields next to the real columns) -/
example : Impl.parseFormat asciiExt "{date:%Y-%m-%d}, {type}, {Desc}, {amount}, {LOC}".toList (some "{desc} ({type})".toList) =
    .ok { dateColumn := 0, dateFormat := "%Y-%m-%d".toList, amountColumn := 3, descriptionColumn := none,
          customCaptures := some [("type".toList, 1), ("desc".toList, 2), ("loc".toList, 4)],
          descriptionTemplate := some "{desc} ({type})".toList, extraFields := none, locationColumn := none,
          negateAmount := false, absAmount := false } := by
  repeat rw [String.toList_ofList]
  decide +kernel
example : Impl.parseFormat asciiExt "{date}, {description}, {amt}, {amount}, {loc}, {location}, {dates}".toList none =
    .ok { dateColumn := 0, dateFormat := FmtTables.DEFAULT_DATE_FORMAT, amountColumn := 3, descriptionColumn := some 1,
          customCaptures := none, descriptionTemplate := none,
          extraFields := some [("amt".toList, 2), ("loc".toList, 4), ("dates".toList, 6)], locationColumn := some 5,
          negateAmount := false, absAmount := false } := by
  repeat rw [String.toList_ofList]
  decide +kernel
example : NamedAt asciiExt (splitComma "{date}, {description}, {amt}, {amount}".toList) 2 "amt".toList := by
  rw [String.toList_ofList]; exact ⟨_, rfl, by decide +kernel⟩

/-- headers whose wording mentions two kinds of column: one role each, the first still open (`detect_first_fit`,
`detect_header_fills_at_most_one_role`); the suggestion keeps all three required tokens -/
def twoRoleHeaders : List Str := ["Payment Date", "Description", "Amount"].map String.toList
example : HeaderMatches asciiExt twoRoleHeaders FmtTables.DATE_PATTERNS 0 ∧
    HeaderMatches asciiExt twoRoleHeaders FmtTables.AMOUNT_PATTERNS 0 := by
  simp only [twoRoleHeaders, List.map_cons, List.map_nil]; repeat rw [String.toList_ofList]
  exact ⟨⟨_, rfl, by decide +kernel⟩, ⟨_, rfl, by decide +kernel⟩⟩
example : Impl.detect asciiExt twoRoleHeaders = .ok ⟨0, FmtTables.DETECT_DATE_FORMAT, 1, 2, none⟩ := by
  simp only [twoRoleHeaders, List.map_cons, List.map_nil]; repeat rw [String.toList_ofList]
  decide +kernel
example : String.ofList (Impl.suggest ⟨0, FmtTables.DETECT_DATE_FORMAT, 1, 2, none⟩)
    = "{date:%m/%d/%Y}, {description}, {amount}" := by
  apply String.ext; rw [String.toList_ofList, String.toList_ofList]; decide +kernel
example : Impl.detect asciiExt (["Amount", "Merchant Charge Date", "Debit Memo", "City Name"].map String.toList)
    = .ok ⟨1, FmtTables.DETECT_DATE_FORMAT, 2, 0, some 3⟩ := by
  simp only [List.map_cons, List.map_nil]; repeat rw [String.toList_ofList]
  decide +kernel
/-- already filled roles: `Charge Date` after `Date` and `Amount` serves nothing; `Payee Date` after `Date` is the description -/
example : Impl.detect asciiExt (["Date", "Amount", "Charge Date", "Payee Date"].map String.toList)
    = .ok ⟨0, FmtTables.DETECT_DATE_FORMAT, 3, 1, none⟩ := by
  simp only [List.map_cons, List.map_nil]; repeat rw [String.toList_ofList]
  decide +kernel
/-- a required role without a header of its own: reported as the error value, `Payment Date` is not also the amount -/
example : Impl.detect asciiExt (["Payment Date", "Description"].map String.toList) = .error .missing := by
  simp only [List.map_cons, List.map_nil]; repeat rw [String.toList_ofList]
  decide +kernel

end TallyVerif.Props.C18
