/-
C05 — every well-formed statement row becomes exactly one transaction, faithfully.

Model: `Csv.parseRow` / `Csv.parseFile` (hand model of `parsers.parse_generic_csv` with `rules=[]`, tied by
differential correspondence in harness/props/c05.py) and `Csv.cleanAmount` / `Csv.parseAmountExact`
(`parsers.parse_amount` up to the call of `float()`).  `float()` and `datetime.strptime` are the fields of
`o : Oracles`; every theorem before `section Date` holds for all of them.  A float is its IEEE bit pattern (`F64`).
`section Date` instantiates the date oracle with `Strptime.strptime`, the model of CPython's `_strptime`
(Model/Strptime.lean, tied to `datetime.strptime` by its own dense correspondence): there `parseRow` / `parseFile` have
no date oracle left - only `float()` and CPython's character tables (`Strptime.Tables`) remain parameters.
The last part ties the constants of `parse_amount`, regenerated from parsers.py, to `cleanAmount`.

`cfg.skipNonFinite = true` is the code with repair D5 (`if not math.isfinite(amount): continue`);
`false` is the tree before it.  `accept_iff` needs the repair; `d5_unrepaired_accepts_nan` is the
counterexample on the unrepaired model (the harness replays the same table on the real code).
-/
import TallyVerif.Lemmas.Csv
import TallyVerif.Lemmas.CsvReader
import TallyVerif.Lemmas.Strptime
import TallyVerif.Lemmas.AmountTables

namespace TallyVerif.Props.C05
open TallyVerif.Csv

/-! ## one transaction per accepted row, in file order; a bad row is skipped on its own -/

/-- No row raises an exception that the per-row `except (ValueError, IndexError)` lets through
(`KeyError` from a template naming a column that is not captured, `AttributeError` from a hand-built
`FormatSpec` without captures/template, `re.error` from a date format with a repeated directive).  `parse_format_string`
rules the first two out, `DateFormatOk` the third; see `noFatal_simple`. -/
def NoFatal (o : Oracles) (cfg : Cfg) (rows : List (List Str)) : Prop :=
  ∀ r ∈ rows, rowFatal o cfg r = false

/-- The loop of `parse_generic_csv` computes `filterMap`: the transactions are exactly those of the accepted
rows, one each, in file order. -/
theorem parseFile_filterMap (o : Oracles) (cfg : Cfg) (rows : List (List Str)) (h : NoFatal o cfg rows) :
    parseFile o cfg rows = .ok (rows.filterMap (rowTxn o cfg)) := by
  simpa [parseFile] using foldl_step_ok o cfg rows h []

/-- The error branch: the first row whose exception is not caught aborts the whole file with that exception. -/
theorem parseFile_fatal (o : Oracles) (cfg : Cfg) (pre : List (List Str)) (r : List Str) (post : List (List Str))
    (hpre : NoFatal o cfg pre) (e : Err) (he : parseRow o cfg r = .error e) (hf : e.fatal = true) :
    parseFile o cfg (pre ++ r :: post) = .error e := by
  rw [parseFile, List.foldl_append, foldl_step_ok o cfg pre hpre, List.foldl_cons]
  simp only [step, he, hf]
  exact foldl_step_error o cfg e post

/-- The date format is one `datetime.strptime` can work with: whatever the text, the call returns a date or raises
`ValueError` (caught per row) - never `re.error` (a format that uses the same directive twice: *redefinition of group name*,
which the per-row `except (ValueError, IndexError)` does NOT catch).  For the model of `strptime` this is
`compile fmt = .ok _` (`dateFormatOk_of_compile` below); `dup_directive_aborts_file` is the excluded case. -/
def DateFormatOk (o : Oracles) (cfg : Cfg) : Prop :=
  ∀ tok e, o.strptime cfg.spec.dateFormat tok = .error e → e = .valueError

/-- an exception that escapes the per-row `except` can only come from building the description (given a date format
that compiles): if `describe` raises none, no row does -/
private theorem noFatal_of_describe (o : Oracles) (cfg : Cfg) (hdf : DateFormatOk o cfg) (rows : List (List Str))
    (h : ∀ r e, describe cfg.spec r = .error e → e.fatal = false) : NoFatal o cfg rows := by
  intro r _
  have ho := parseRow_outcome o cfg r
  unfold rowFatal
  generalize parseRow o cfg r = res at ho ⊢
  cases ho with
  | skipped _ hs => exact hs
  | describe e hd => exact h r e hd
  | date tok de hde => rw [hdf tok de hde]; rfl
  | ok => rfl

/-- With `{description}` in the format (mode 1) no row can raise anything but what is caught. -/
theorem noFatal_simple (o : Oracles) (cfg : Cfg) (hdf : DateFormatOk o cfg) (rows : List (List Str)) (dc : Nat)
    (hm : cfg.spec.descCol = some dc) : NoFatal o cfg rows :=
  noFatal_of_describe o cfg hdf rows fun r e h => by simp [describe, hm] at h

/-- Mode 2 with a template that is literal text and `{name}` references to captured columns (what
`parse_format_string` accepts; `renderSegs` doubles literal braces): no row can raise anything but what is caught. -/
theorem noFatal_template (o : Oracles) (cfg : Cfg) (hdf : DateFormatOk o cfg) (rows : List (List Str)) (cc : List (Str × Nat))
    (segs : List Seg) (hm : cfg.spec.descCol = none) (hcc : cfg.spec.customCaptures = some cc)
    (htpl : cfg.spec.template = some (renderSegs segs)) (hrefs : refsOk (cc.map (·.1)) segs = true) :
    NoFatal o cfg rows :=
  noFatal_of_describe o cfg hdf rows fun r e h => by
    simp [describe, hm, hcc, htpl, formatTemplate, fmtScan_segs _ _ _ ((captureCells_names r cc).symm ▸ hrefs)] at h

/-- Reading two tables one after the other = reading their concatenation. -/
theorem parseFile_append (o : Oracles) (cfg : Cfg) (a b : List (List Str)) (ha : NoFatal o cfg a) (hb : NoFatal o cfg b) :
    parseFile o cfg (a ++ b) = .ok (a.filterMap (rowTxn o cfg) ++ b.filterMap (rowTxn o cfg)) := by
  rw [parseFile_filterMap o cfg _ (List.forall_mem_append.mpr ⟨ha, hb⟩), List.filterMap_append]

/-- A malformed row (any skipped row) never changes how the other rows are read: inserting it anywhere leaves
the result unchanged. -/
theorem bad_row_neutral (o : Oracles) (cfg : Cfg) (a b : List (List Str)) (r : List Str)
    (ha : NoFatal o cfg a) (hb : NoFatal o cfg b) (e : Err) (hr : parseRow o cfg r = .error e) (hc : e.fatal = false) :
    parseFile o cfg (a ++ r :: b) = parseFile o cfg (a ++ b) := by
  rw [parseFile_append o cfg a (r :: b) ha (List.forall_mem_cons.mpr ⟨by simp [rowFatal, hr, hc], hb⟩),
    parseFile_append o cfg a b ha hb]
  simp [rowTxn, hr]

/-- An accepted row contributes exactly its own transaction, at its own place: everything before it stays
before, everything after it stays after (file order; removing or duplicating the row removes or duplicates
exactly that transaction). -/
theorem order_preserved (o : Oracles) (cfg : Cfg) (a b : List (List Str)) (r : List Str) (t : Txn)
    (ha : NoFatal o cfg a) (hb : NoFatal o cfg b) (hr : parseRow o cfg r = .ok t) :
    parseFile o cfg (a ++ r :: b) = .ok (a.filterMap (rowTxn o cfg) ++ t :: b.filterMap (rowTxn o cfg)) := by
  rw [parseFile_append o cfg a (r :: b) ha (List.forall_mem_cons.mpr ⟨by simp [rowFatal, hr], hb⟩)]
  simp [rowTxn, hr]

/-- Exactly one transaction per accepted row: as many transactions as rows that are accepted. -/
theorem one_per_row (o : Oracles) (cfg : Cfg) (rows : List (List Str)) (h : NoFatal o cfg rows) :
    ∃ ts, parseFile o cfg rows = .ok ts ∧
      ts.length = (rows.filter fun r => (rowTxn o cfg r).isSome).length :=
  ⟨_, parseFile_filterMap o cfg rows h, by rw [List.length_filterMap_eq_countP, List.countP_eq_length_filter]⟩

/-! ## which rows are accepted -/

/-- (with repair D5) A row becomes a transaction **iff** it has enough columns, its date cell is non-empty and its
date token matches the format, its description is non-empty, and its amount cell is non-empty and spells a number
that is finite and not zero. -/
theorem accept_iff (o : Oracles) (cfg : Cfg) (row : List Str) (hfix : cfg.skipNonFinite = true) :
    (∃ t, parseRow o cfg row = .ok t) ↔
      maxCol cfg.spec < row.length ∧
      (∃ tok dt, (cell row cfg.spec.dateCol).isEmpty = false ∧
          dateToken cfg.spec (cell row cfg.spec.dateCol) = some tok ∧ o.strptime cfg.spec.dateFormat tok = .ok dt) ∧
      (∃ desc caps, describe cfg.spec row = .ok (desc, caps) ∧ desc.isEmpty = false) ∧
      (∃ q, (cell row cfg.spec.amountCol).isEmpty = false ∧ rawAmount o cfg row = some q ∧
          q.isFinite = true ∧ q.isZero = false) := by
  constructor
  · rintro ⟨t, ht⟩
    obtain ⟨desc, caps, tok, dt, q, a, -⟩ := accepted_of_parseRow ht
    exact ⟨a.len, ⟨tok, dt, a.dateCell, a.token, a.date⟩, ⟨desc, caps, a.described, a.descNe⟩,
      ⟨q, a.amountCell, a.amount, a.finite hfix, a.nonzero⟩⟩
  · rintro ⟨hlen, ⟨tok, dt, h1, htok, hdt⟩, ⟨desc, caps, hd, h2⟩, ⟨q, h3, hq, hfin, hz⟩⟩
    exact ⟨_, Accepted.parseRow ⟨hlen, hd, h1, h2, h3, htok, hdt, hq, fun _ => hfin, hz⟩⟩

/-- every column the format refers to exists in an accepted row (the `len(row) <= max_col` guard), so `cell`
never reads outside the row -/
theorem columns_in_range (o : Oracles) (cfg : Cfg) (row : List Str) (t : Txn) (h : parseRow o cfg row = .ok t)
    (i : Nat) (hi : i ∈ requiredCols cfg.spec) : ∃ c, row[i]? = some c ∧ cell row i = strip c := by
  obtain ⟨_, _, _, _, _, a, -⟩ := accepted_of_parseRow h
  have hi' := required_lt_length cfg.spec row i hi a.len
  exact ⟨row[i], by simp [hi'], by simp [cell, List.getD, hi']⟩

/-! ### defect D5 -/

def okOf : Except Err Txn → Option Txn
  | .ok t => some t
  | .error _ => none
def errOf : Except Err Txn → Option Err
  | .ok _ => none
  | .error e => some e

/-- `float()` on the spellings used below; everything else is a `ValueError` -/
def d5Oracle : Oracles where
  pyFloat s := if s = ['n', 'a', 'n'] then some ⟨false, 0x7ff8000000000000⟩
    else if s = ['1', '2', '.', '5'] then some ⟨false, 0x4029000000000000⟩ else none
  strptime _ tok := if tok = ['0', '1', '/', '1', '5', '/', '2', '0', '2', '5'] then .ok ['o', 'k'] else .error .valueError

def d5Spec : Spec := { dateCol := 0, dateFormat := ['%', 'm', '/', '%', 'd', '/', '%', 'Y'], amountCol := 2, descCol := some 1 }
def d5Row : List Str := [['0', '1', '/', '1', '5', '/', '2', '0', '2', '5'], ['C', 'O', 'F', 'F', 'E', 'E'], ['n', 'a', 'n']]

/-- **D5 on the unrepaired model**: the row `01/15/2025,COFFEE,nan` is accepted as a transaction whose amount is
NaN — `accept_iff` is false without the finiteness check (the amount is not finite). -/
theorem d5_unrepaired_accepts_nan :
    (okOf (parseRow d5Oracle { spec := d5Spec, eu := false, sourceName := ['B'], skipNonFinite := false } d5Row)).map
        (fun t => (t.rawDescription, t.amount.isNaN, t.amount.isFinite, t.amount.isZero))
      = some (['C', 'O', 'F', 'F', 'E', 'E'], true, false, false) := by
  decide +kernel

/-- the same row on the repaired model is skipped, alone -/
theorem d5_repaired_skips_nan :
    errOf (parseRow d5Oracle { spec := d5Spec, eu := false, sourceName := ['B'] } d5Row) = some .nonFinite := by
  decide +kernel

/-! ## what an accepted row's transaction carries -/

/-- Sign modes: the amount has the magnitude of the number in the cell; its sign bit is cleared for `{+amount}`,
flipped for `{-amount}` (and `+` wins when both are set), untouched otherwise. -/
theorem sign_modes (o : Oracles) (cfg : Cfg) (row : List Str) (t : Txn) (h : parseRow o cfg row = .ok t) :
    ∃ q, rawAmount o cfg row = some q ∧ t.amount.mag = q.mag ∧
      t.amount.neg = (if cfg.spec.absAmount then false else if cfg.spec.negateAmount then !q.neg else q.neg) := by
  obtain ⟨desc, caps, tok, dt, q, a, rfl⟩ := accepted_of_parseRow h
  exact ⟨q, a.amount, applySign_mag _ _, applySign_neg _ _⟩

/-- Fidelity: date = `strptime` of the date token, description and field map as `describe` builds them, source
name (the spec's own name wins when set), credit flag = `amount < 0`, location = location cell or the trailing
two-letter code of the description. -/
theorem fidelity (o : Oracles) (cfg : Cfg) (row : List Str) (t : Txn) (h : parseRow o cfg row = .ok t) :
    ∃ desc caps tok,
      describe cfg.spec row = .ok (desc, caps) ∧ t.rawDescription = desc ∧
      t.field = (if caps.isEmpty then none else some caps) ∧
      dateToken cfg.spec (cell row cfg.spec.dateCol) = some tok ∧ o.strptime cfg.spec.dateFormat tok = .ok t.date ∧
      t.source = sourceOf cfg ∧ t.isCredit = t.amount.ltZero ∧ t.location = locationOf cfg.spec row desc := by
  obtain ⟨desc, caps, tok, dt, q, a, rfl⟩ := accepted_of_parseRow h
  exact ⟨desc, caps, tok, a.described, rfl, rfl, a.token, a.date, rfl, rfl, rfl⟩

/-- Mode 1 (`{description}`): the description is the description cell with surrounding blanks removed, and the
field map holds the extra captured columns, stripped, in column order. -/
theorem fidelity_simple (o : Oracles) (cfg : Cfg) (row : List Str) (t : Txn) (dc : Nat)
    (hm : cfg.spec.descCol = some dc) (h : parseRow o cfg row = .ok t) :
    ∃ c, row[dc]? = some c ∧ t.rawDescription = strip c ∧
      t.field = (let caps := captureCells row (cfg.spec.extraFields.getD [])
                 if caps.isEmpty then none else some caps) := by
  obtain ⟨desc, caps, tok, hd, h1, h2, -⟩ := fidelity o cfg row t h
  have hreq : dc ∈ requiredCols cfg.spec := by simp [requiredCols, hm]
  obtain ⟨c, hc, hcell⟩ := columns_in_range o cfg row t h dc hreq
  simp only [describe, hm, Except.ok.injEq, Prod.mk.injEq] at hd
  obtain ⟨rfl, rfl⟩ := hd
  exact ⟨c, hc, h1.trans hcell, h2⟩

/-- Mode 2 (captures + template): the description is `template.format(**captures)` over the stripped captured
cells, and those cells are the field map. -/
theorem fidelity_template (o : Oracles) (cfg : Cfg) (row : List Str) (t : Txn)
    (hm : cfg.spec.descCol = none) (h : parseRow o cfg row = .ok t) :
    ∃ cc tpl, cfg.spec.customCaptures = some cc ∧ cfg.spec.template = some tpl ∧
      formatTemplate tpl (captureCells row cc) = .ok t.rawDescription ∧
      t.field = (if (captureCells row cc).isEmpty then none else some (captureCells row cc)) := by
  obtain ⟨desc, caps, tok, hd, rfl, h2, -⟩ := fidelity o cfg row t h
  revert hd
  -- one branch of `describe` returns a description when there is no description column
  fun_cases describe cfg.spec row <;> intro hd
  case case1 d hdc => rw [hm] at hdc; cases hdc  -- a description column: excluded by `hm`
  case case5 cc hcc tpl htpl d hf => cases hd; exact ⟨cc, tpl, hcc, htpl, hf, h2⟩  -- captures, template, `format` succeeds
  all_goals cases hd

/-- The template is *filled*: for a template made of literal text and `{name}` references to captured columns,
`template.format(**captures)` is the literal text with every reference replaced by that column's stripped cell. -/
theorem template_filled (row : List Str) (cc : List (Str × Nat)) (segs : List Seg)
    (hrefs : refsOk (cc.map (·.1)) segs = true) :
    formatTemplate (renderSegs segs) (captureCells row cc) = .ok (fillSegs (captureCells row cc) segs) := by
  simpa [formatTemplate] using fmtScan_segs _ segs [] ((captureCells_names row cc).symm ▸ hrefs)

/-! ## the amount is the number written in the cell -/

/-- US convention (`decimal_separator='.'`): for EVERY integer number of cents `n` and every style (thousands commas
or not; `$ € £ ¥` before, after, or after a blank, or none; negative as `-…` or `(…)`), cleaning the rendered
text and reading it as a decimal literal gives exactly `n / 100` (mantissa `n`, two decimals). -/
theorem amount_roundtrip_us (st : Style) (n : Int) (hsym : ∀ c, st.symbol = some c → isCurrency c = true) :
    parseAmountExact false (renderCents false st n) = some (n, 2) :=
  renderCents_roundtrip false st n hsym

/-- European convention (`decimal_separator=','`): same with `.` or a blank as thousands separator and a decimal comma. -/
theorem amount_roundtrip_eu (st : Style) (n : Int) (hsym : ∀ c, st.symbol = some c → isCurrency c = true) :
    parseAmountExact true (renderCents true st n) = some (n, 2) :=
  renderCents_roundtrip true st n hsym

/-- The float handed on is `float()` of the cleaned text, negated when the cell was in parentheses — so with the
round-trip theorems the amount is the double `float()` returns for the decimal literal of `n/100`
(that `float()` rounds correctly is CPython's, checked bit-for-bit by the harness). -/
theorem amount_is_float_of_cleaned (o : Oracles) (eu : Bool) (cellText : Str) :
    parseAmount o eu cellText =
      (o.pyFloat (cleanAmount eu cellText).2).map fun r => if (cleanAmount eu cellText).1 then r.negate else r := by
  unfold parseAmount
  rcases cleanAmount eu cellText with ⟨p, s⟩
  dsimp only
  cases o.pyFloat s <;> rfl

/-! ## tokenisation: every row of the file is read as itself, whatever its cells begin with or contain

`Csv.readCsv` is CPython's reader automaton, `Csv.writeCsv` what `csv.writer` emits, `Csv.iterRows` is
`_iter_rows_with_delimiter` (all three tied to the real code by correspondence on the generated files).
(The quote character is written `'\x22'` in this file: the harness's comment stripper, which lists the theorems, reads a
bare double quote as the start of a string literal.) -/

/-- Reading what was written gives back the table: each row is exactly one record with exactly its cells - for ALL cell
texts (delimiters, quotes, line breaks inside cells, cells or continuation lines beginning with `#`, `;`, blanks, a BOM …),
empty rows and empty cells included.  No row changes how another row is read. -/
theorem readCsv_writeCsv (d : Char) (hd1 : d ≠ '\x22') (hd2 : d ≠ '\n') (rows : List (List Str)) :
    readCsv d (writeCsv d rows) = rows :=
  Csv.readCsv_writeCsv d hd1 hd2 rows

/-- Records are read independently: if the text `a` ends where a record ends (the automaton is back in its start
state), the records of `a ++ b` are those of `a` followed by those of `b`. -/
theorem readCsv_append (d : Char) (a b : Str) (h : (runCsv d RS.init a).2 = RS.init) :
    readCsv d (a ++ b) = readCsv d a ++ readCsv d b := by
  simp only [readCsv, runCsv_append, h, RS.flush_init, List.append_nil, List.append_assoc]

/-- `header_skip` (csv kinds): with `has_header` the first written row - and only it - is not data; without, every row is. -/
theorem iterRows_written (m : Str → Option (List Str)) (d : Char) (hd1 : d ≠ '\x22') (hd2 : d ≠ '\n')
    (hdr : List Str) (rows : List (List Str)) :
    iterRows m (.csv d) true (writeCsv d (hdr :: rows)) = rows ∧
    iterRows m (.csv d) false (writeCsv d rows) = rows := by
  simp [iterRows, readCsv_writeCsv d hd1 hd2]

/-- `regex_rows`: under a `regex:` delimiter the header is physical line 0 and nothing else; every other line contributes on
its own: nothing when it is blank or the pattern does not match, else the groups of the match on the stripped line. -/
theorem regex_rows (m : Str → Option (List Str)) (hasHeader : Bool) (text : Str) :
    iterRows m .regex hasHeader text =
      ((if hasHeader then (splitLines text).drop 1 else splitLines text).filterMap (lineRow m)) :=
  regexLoop_zero m hasHeader (splitLines text)

/-- a blank or non-matching line (not the header line) never changes how the other lines are read -/
theorem regex_bad_line_neutral (m : Str → Option (List Str)) (hdr : Option Str) (pre post : List Str) (l : Str)
    (hl : lineRow m l = none) :
    regexLoop m hdr.isSome 0 (hdr.toList ++ pre ++ l :: post) = regexLoop m hdr.isSome 0 (hdr.toList ++ pre ++ post) := by
  rw [regexLoop_zero, regexLoop_zero]
  cases hdr <;> simp [List.filterMap_append, hl]

/-- From the file to the transactions (csv kinds, header written): the transactions are exactly those of the accepted
rows of the table, one each, in order - tokenisation and the row loop composed. -/
theorem statement_filterMap (o : Oracles) (cfg : Cfg) (m : Str → Option (List Str)) (d : Char) (hd1 : d ≠ '\x22') (hd2 : d ≠ '\n')
    (hdr : List Str) (rows : List (List Str)) (h : NoFatal o cfg rows) :
    parseFile o cfg (iterRows m (.csv d) true (writeCsv d (hdr :: rows))) = .ok (rows.filterMap (rowTxn o cfg)) := by
  rw [(iterRows_written m d hd1 hd2 hdr rows).1]; exact parseFile_filterMap o cfg rows h

/-! ## the `delimiter:` setting

What the source settings say is a TEXT (`delimiter:` in settings.yaml, handed on unchanged by `resolve_source_format`);
`delimOf` is what `_iter_rows_with_delimiter` makes of it.  The clauses "all delimiters (comma, single char, tab, regex)": -/

/-- A setting of exactly one character IS that character, whatever the character is - a letter, `;`, `|`, and equally a
character that is itself white space (a real tab, a blank, U+001F …): nothing is trimmed, nothing is looked up. -/
theorem delimiter_setting_single (c : Char) : delimOf (some [c]) = .csv c := by
  unfold delimOf
  -- a literal is `String.ofList` of its characters: taken apart here, not by unfolding `String.toList` (quadratic in the length)
  repeat rw [String.toList_ofList]
  simp [List.isPrefixOf]

/-- no setting = comma; the word `tab` = the tab character; `regex:…` = the line-pattern reader, whatever follows the colon -/
theorem delimiter_setting_words (p : Str) :
    delimOf none = .csv ',' ∧ delimOf (some "tab".toList) = .csv '\t' ∧ delimOf (some ("regex:".toList ++ p)) = .regex := by
  unfold delimOf
  repeat rw [String.toList_ofList]
  simp [List.isPrefixOf]

/-- From the settings to the transactions: a statement written with the one-character delimiter `c` (any character except
the quote and the line feed - a tab or a blank included) and declared with `delimiter: c` is read back row for row:
the transactions are exactly those of the accepted rows of the table, one each, in order. -/
theorem statement_filterMap_setting (o : Oracles) (cfg : Cfg) (m : Str → Option (List Str)) (c : Char) (hc1 : c ≠ '\x22') (hc2 : c ≠ '\n')
    (hdr : List Str) (rows : List (List Str)) (h : NoFatal o cfg rows) :
    parseFile o cfg (iterRows m (delimOf (some [c])) true (writeCsv c (hdr :: rows))) = .ok (rows.filterMap (rowTxn o cfg)) ∧
    parseFile o cfg (iterRows m (delimOf (some [c])) false (writeCsv c rows)) = .ok (rows.filterMap (rowTxn o cfg)) := by
  rw [delimiter_setting_single c, (iterRows_written m c hc1 hc2 hdr rows).1, (iterRows_written m c hc1 hc2 hdr rows).2]
  exact ⟨parseFile_filterMap o cfg rows h, parseFile_filterMap o cfg rows h⟩

/-- the same for `delimiter: tab` and for no `delimiter:` at all -/
theorem statement_filterMap_tab_and_default (o : Oracles) (cfg : Cfg) (m : Str → Option (List Str))
    (hdr : List Str) (rows : List (List Str)) (h : NoFatal o cfg rows) :
    parseFile o cfg (iterRows m (delimOf (some "tab".toList)) true (writeCsv '\t' (hdr :: rows))) = .ok (rows.filterMap (rowTxn o cfg)) ∧
    parseFile o cfg (iterRows m (delimOf none) true (writeCsv ',' (hdr :: rows))) = .ok (rows.filterMap (rowTxn o cfg)) := by
  rw [(delimiter_setting_words []).1, (delimiter_setting_words []).2.1,
    (iterRows_written m '\t' (by decide) (by decide) hdr rows).1, (iterRows_written m ',' (by decide) (by decide) hdr rows).1]
  exact ⟨parseFile_filterMap o cfg rows h, parseFile_filterMap o cfg rows h⟩

/-- a white-space delimiter setting is not the default: a blank-separated line is three cells under `delimiter: " "`
and one cell under the default (what reading the setting through a trimming step would make of it) -/
example : iterRows (fun _ => none) (delimOf (some [' '])) false "a b c\n".toList = [["a".toList, "b".toList, "c".toList]] ∧
    iterRows (fun _ => none) (delimOf none) false "a b c\n".toList = [["a b c".toList]] := by
  repeat rw [String.toList_ofList]
  decide +kernel

/-! ## non-vacuity: concrete inputs satisfying the hypotheses -/

/-- a 3-row table: accepted, skipped (bad date), accepted — two transactions in order, `NoFatal` holds -/
example :
    let cfg : Cfg := { spec := d5Spec, eu := false, sourceName := ['B'] }
    let good : List Str := [['0', '1', '/', '1', '5', '/', '2', '0', '2', '5'], [' ', 'T', 'E', 'A', ' ', 'W', 'A', ' '], ['$', '1', '2', '.', '5']]
    let bad : List Str := [['x'], ['T', 'E', 'A'], ['1', '2', '.', '5']]
    (∀ r ∈ [good, bad, good], rowFatal d5Oracle cfg r = false) ∧
    (match parseFile d5Oracle cfg [good, bad, good] with
      | .ok ts => some (ts.map fun t => (t.rawDescription, t.amount.toBits, t.location))
      | .error _ => none)
      = some [(['T', 'E', 'A', ' ', 'W', 'A'], 0x4029000000000000, some ['W', 'A']),
              (['T', 'E', 'A', ' ', 'W', 'A'], 0x4029000000000000, some ['W', 'A'])] := by
  decide +kernel

/-- `($1,234,567.05)` in the US convention and `-1 234 567,05 €` in the European one both read as −123456705 cents -/
example :
    render false { thousands := true, symbol := some '$', paren := true } true [1, 2, 3, 4, 5, 6, 7] 0 5
      = ['(', '$', '1', ',', '2', '3', '4', ',', '5', '6', '7', '.', '0', '5', ')'] ∧
    parseAmountExact false ['(', '$', '1', ',', '2', '3', '4', ',', '5', '6', '7', '.', '0', '5', ')'] = some (-123456705, 2) ∧
    parseAmountExact true ['-', '1', ' ', '2', '3', '4', ' ', '5', '6', '7', ',', '0', '5', ' ', '€'] = some (-123456705, 2) := by
  decide +kernel

/-- template `{merchant} ({type})` over captures merchant, type: hypotheses of `noFatal_template` / `template_filled`
hold and the description of the row ` Bäckerei `, `card` is `Bäckerei (card)` -/
example :
    let cc : List (Str × Nat) := [(['m'], 1), (['t'], 3)]
    let segs : List Seg := [.ref ['m'], .lit [' ', '('], .ref ['t'], .lit [')']]
    let row : List Str := [['d'], [' ', 'B', 'ä', 'c', 'k', ' '], ['1'], ['c', 'a', 'r', 'd']]
    refsOk (cc.map (·.1)) segs = true ∧
    renderSegs segs = ['{', 'm', '}', ' ', '(', '{', 't', '}', ')'] ∧
    fillSegs (captureCells row cc) segs = ['B', 'ä', 'c', 'k', ' ', '(', 'c', 'a', 'r', 'd', ')'] := by
  decide +kernel

/-- a table whose rows begin with `#`, `;` and a blank, with a two-line cell whose second line begins with `#`, an embedded
delimiter and an embedded quote: the text `csv.writer` produces, and `readCsv` / `iterRows` of it -/
example :
    let rows : List (List Str) := [['#', '1'], ['a', '\n', '#', 'b']] :: [[';'], [',', '\x22']] :: [] :: [[]] :: [[' ', '#'], []] :: []
    writeCsv ',' rows = "#1,\"a\n#b\"\n;,\",\"\"\"\n\n\"\"\n #,\n".toList ∧
    readCsv ',' (writeCsv ',' rows) = rows ∧
    iterRows (fun _ => none) (.csv ',') true (writeCsv ',' rows) = rows.drop 1 := by
  repeat rw [String.toList_ofList]
  decide +kernel

/-- regex kind: header line, a `#` line, a blank line and a non-matching line -/
example :
    let m : Str → Option (List Str) := fun s => if s.head? = some '!' then none else some [s]
    iterRows m .regex true "Date|X\n#1042|5\n   \n!x\n  b|6  ".toList = [[['#', '1', '0', '4', '2', '|', '5']], [['b', '|', '6']]] := by
  repeat rw [String.toList_ofList]
  decide +kernel

/-- the style hypothesis of the round-trip theorems is satisfiable -/
example : ∀ c, (Style.mk true false (some '€') .postSpace false).symbol = some c → isCurrency c = true := by
  intro c h; cases h; decide

/-! ## the date: `datetime.strptime` inside the model

`Strptime.oracles T pf` answers `strptime` with the model of CPython's `_strptime` (`Strptime.strptime`); `T` = CPython's
character tables (which characters are decimal digits and what they are worth, which characters a literal matches under
IGNORECASE, `str.lower`), of which the theorems assume only what `TablesOk` says (their restriction to ASCII);
`asciiTables_ok` shows that this is satisfiable. -/

section Date
open TallyVerif.Strptime

/-- `matching`: the matcher inside `strptime` is the regular-expression engine's ordered-choice backtracking - it returns
`r` exactly when `r` comes from the FIRST choice vector, in priority order (alternatives of a directive in the order
written, white space longest first, earlier items more significant), under which the compiled format matches a prefix of the
text; and nothing exactly when no choice vector matches. -/
theorem strptime_match_is_first (T : Tables) (items : List Item) (s : Str) :
    (∀ r, matchItems T items s = some r ↔ IsFirst T items s r) ∧
    (matchItems T items s = none ↔ ∀ v, matchWith T items v s = none) :=
  matchItems_first T items s

/-- `round trip`: for EVERY format whose directives are among `%Y %y %m %d %b %B %H %M %S` and name year, month and day
(`FmtOk`: nothing is asked of the separators), EVERY valid date-time whose year the format can write (`YearFits`: 1969..2068
under `%y`) and EVERY spelling `strptime` is meant to accept (`SpellsOk`: one or two digits for day / month / hour / minute /
second - one digit only where no digit follows -, any white space for a white-space run, any letter case of the month name):
reading the written text gives back the date (and the time fields the format mentions; the others are 0). -/
theorem strptime_strftimeWith (T : Tables) (hT : TablesOk T) (fmt : Str) (sps : List Spell) (t : DateTime)
    (hf : FmtOk fmt = true) (hv : t.valid = true) (hy : YearFits fmt t = true) (hs : SpellsOk T sps fmt t = true) :
    strptime T fmt (strftimeWith sps fmt t) = .ok (readBack fmt t) := by
  obtain ⟨items, w⟩ := Written.of_spellsOk hf hv hs
  unfold YearFits at hy; unfold readBack
  rw [w.compile] at hy ⊢
  exact strptime_of_items hT w hv hy

/-- `round trip`, the spelling `strftime` itself writes (zero padded, month names capitalised): no condition on the
spelling is left - `%Y%m%d` reads back as well as `%m/%d/%Y`. -/
theorem strptime_strftime (T : Tables) (hT : TablesOk T) (fmt : Str) (t : DateTime)
    (hf : FmtOk fmt = true) (hv : t.valid = true) (hy : YearFits fmt t = true) :
    strptime T fmt (strftime fmt t) = .ok (readBack fmt t) := by
  refine strptime_strftimeWith T hT fmt [] t hf hv hy ?_
  unfold SpellsOk
  cases hc : compile fmt with
  | error e => simp [FmtOk, hc] at hf
  | ok items => exact spellsOk_nil T items t

/-- the year, month and day read back are the date's own -/
theorem readBack_date (fmt : Str) (t : DateTime) :
    (readBack fmt t).year = t.year ∧ (readBack fmt t).month = t.month ∧ (readBack fmt t).day = t.day := by
  unfold readBack; cases compile fmt <;> simp [restrict]

/-- `determinism of the reading`: under an `FmtOk` format no two different dates are written the same way, whatever the
(accepted) spellings: equal texts ⇒ equal year, month and day (and equal mentioned time fields). -/
theorem strftime_injective (T : Tables) (hT : TablesOk T) (fmt : Str) (sps₁ sps₂ : List Spell) (t₁ t₂ : DateTime)
    (hf : FmtOk fmt = true) (hv₁ : t₁.valid = true) (hv₂ : t₂.valid = true) (hy₁ : YearFits fmt t₁ = true)
    (hy₂ : YearFits fmt t₂ = true) (hs₁ : SpellsOk T sps₁ fmt t₁ = true) (hs₂ : SpellsOk T sps₂ fmt t₂ = true)
    (h : strftimeWith sps₁ fmt t₁ = strftimeWith sps₂ fmt t₂) :
    readBack fmt t₁ = readBack fmt t₂ ∧ t₁.year = t₂.year ∧ t₁.month = t₂.month ∧ t₁.day = t₂.day := by
  have h1 := strptime_strftimeWith T hT fmt sps₁ t₁ hf hv₁ hy₁ hs₁
  have h2 := strptime_strftimeWith T hT fmt sps₂ t₂ hf hv₂ hy₂ hs₂
  rw [h, h2] at h1
  have heq : readBack fmt t₂ = readBack fmt t₁ := by injection h1
  obtain ⟨y₁, m₁, d₁⟩ := readBack_date fmt t₁
  obtain ⟨y₂, m₂, d₂⟩ := readBack_date fmt t₂
  rw [heq] at y₂ m₂ d₂
  exact ⟨heq.symm, y₁.symm.trans y₂, m₁.symm.trans m₂, d₁.symm.trans d₂⟩

/-- `rejection` (1): whatever `strptime` returns is a date of the calendar - month 1..12, day within the month (29 February
only in leap years), year 1..9999, a time of the day.  No text is ever read as 30 February, month 13 or day 32. -/
theorem strptime_ok_valid (T : Tables) (fmt s : Str) (t : DateTime) (h : strptime T fmt s = .ok t) : t.valid = true := by
  obtain ⟨items, caps, a, -, -, -, hfin⟩ := strptime_ok_parts h
  exact finish_valid a t hfin

/-- `rejection` (2): a text is read only if it is in the language of the format from its first character to its last: there
is a choice of one alternative per directive and of a (positive) number of white-space characters per white-space run
under which the compiled format matches the WHOLE text (a wrong separator, a field outside its alternatives, trailing text:
no such choice exists, so the result is an error). -/
theorem strptime_ok_in_language (T : Tables) (fmt s : Str) (t : DateTime) (h : strptime T fmt s = .ok t) :
    ∃ items v caps, compile fmt = .ok items ∧ matchWith T items v s = some (caps, []) := by
  obtain ⟨items, caps, a, hc, hm, -, -⟩ := strptime_ok_parts h
  obtain ⟨v, hv, -⟩ := ((matchItems_first T items s).1 (caps, [])).mp hm
  exact ⟨items, v, caps, hc, hv⟩

/-- a date format that compiles never makes `strptime` raise anything but `ValueError` -/
theorem dateFormatOk_of_compile (T : Tables) (pf : Str → Option F64) (cfg : Cfg) (items : List Item)
    (hc : compile cfg.spec.dateFormat = .ok items) : DateFormatOk (oracles T pf) cfg := by
  intro tok e h
  simp only [oracles, dateOracle] at h
  split at h
  · cases h  -- `strptime` returned a date
  · rename_i e' he
    cases h
    exact strptime_err_of_compile_ok hc he

/-- the stages of `parseRow` before the date is parsed all succeed -/
def ReachesDate (cfg : Cfg) (row : List Str) (tok : Str) : Prop :=
  maxCol cfg.spec < row.length ∧ (∃ desc caps, describe cfg.spec row = .ok (desc, caps) ∧ desc.isEmpty = false) ∧
    (cell row cfg.spec.dateCol).isEmpty = false ∧ (cell row cfg.spec.amountCol).isEmpty = false ∧
    dateToken cfg.spec (cell row cfg.spec.dateCol) = some tok

/-- what `parseRow` returns for a row that gets as far as its date, when `strptime` fails -/
theorem parseRow_date_error (o : Oracles) (cfg : Cfg) (row : List Str) (tok : Str) (e : DateErr)
    (hr : ReachesDate cfg row tok) (he : o.strptime cfg.spec.dateFormat tok = .error e) :
    parseRow o cfg row = .error e.toErr := by
  obtain ⟨hlen, ⟨desc, caps, hd, hdne⟩, h1, h3, htok⟩ := hr
  have hlen' : ¬ row.length ≤ maxCol cfg.spec := by omega
  unfold parseRow
  simp only [hlen', if_false, hd, h1, hdne, h3, htok, he, Bool.or_self, Bool.false_eq_true]

/-- `rejection` (3), the row: if the date token is not read by `strptime` (any `ValueError`: not in the format's language,
text left over, an impossible date), the row is skipped - and, by `bad_row_neutral`, every other row is read as before. -/
theorem bad_date_row_neutral (T : Tables) (pf : Str → Option F64) (cfg : Cfg) (a b : List (List Str)) (row : List Str)
    (tok : Str) (e : StrpErr) (hr : ReachesDate cfg row tok) (he : strptime T cfg.spec.dateFormat tok = .error e)
    (hv : e.toDateErr = .valueError) (ha : NoFatal (oracles T pf) cfg a) (hb : NoFatal (oracles T pf) cfg b) :
    parseRow (oracles T pf) cfg row = .error .valueError ∧
    parseFile (oracles T pf) cfg (a ++ row :: b) = parseFile (oracles T pf) cfg (a ++ b) := by
  have hrow : parseRow (oracles T pf) cfg row = .error .valueError :=
    parseRow_date_error (oracles T pf) cfg row tok .valueError hr (by simp [oracles, dateOracle, he, hv])
  exact ⟨hrow, bad_row_neutral (oracles T pf) cfg a b row ha hb .valueError hrow rfl⟩

/-- `duplicate directive`: a date format that uses a directive twice (`%d/%d/%Y`) makes `strptime` raise `re.error`, which
the per-row `except (ValueError, IndexError)` does not catch: the first row that gets as far as its date aborts the whole
file (observation O-strptime-1 in notes/strptime_notes.md; the excluded case of `DateFormatOk`). -/
theorem dup_directive_aborts_file (T : Tables) (pf : Str → Option F64) (cfg : Cfg) (pre post : List (List Str)) (row : List Str)
    (tok : Str) (hre : compile cfg.spec.dateFormat = .error .reError) (hr : ReachesDate cfg row tok)
    (hpre : NoFatal (oracles T pf) cfg pre) :
    parseFile (oracles T pf) cfg (pre ++ row :: post) = .error .reError := by
  have hrow : parseRow (oracles T pf) cfg row = .error .reError :=
    parseRow_date_error (oracles T pf) cfg row tok .reError hr
      (by simp [oracles, dateOracle, strptime_err_of_compile_err hre, StrpErr.toDateErr])
  exact parseFile_fatal (oracles T pf) cfg pre row post hpre .reError hrow rfl

/-- `carries the row's date`: a row that gets as far as its date, whose date token `strptime` reads as `t`, and whose amount
is a finite non-zero number, becomes the transaction whose date is `t` (written `t.isoformat()`). -/
theorem parseRow_of_date (T : Tables) (pf : Str → Option F64) (cfg : Cfg) (row : List Str) (tok : Str) (t : DateTime)
    (desc : Str) (caps : List (Str × Str)) (q : F64) (hr : ReachesDate cfg row tok)
    (hd : describe cfg.spec row = .ok (desc, caps))
    (hdate : strptime T cfg.spec.dateFormat tok = .ok t) (hq : rawAmount (oracles T pf) cfg row = some q)
    (hfin : q.isFinite = true) (hz : q.isZero = false) :
    parseRow (oracles T pf) cfg row = .ok (mkTxn cfg row desc caps (isoformat t) q) := by
  obtain ⟨hlen, ⟨desc', caps', hd', hdne⟩, h1, h3, htok⟩ := hr
  rw [hd] at hd'; cases hd'
  exact Accepted.parseRow ⟨hlen, hd, h1, hdne, h3, htok, by simp [oracles, dateOracle, hdate], hq, fun _ => hfin, hz⟩

/-- the format neither begins nor ends with white space -/
def FmtEdgesOk (fmt : Str) : Bool :=
  match compile fmt with
  | .ok items => !startsWithSpaces items && lastNotSpaces items && !items.isEmpty
  | .error _ => false

/-- `the date cell` (format string without white space, e.g. `%m/%d/%Y`): blanks around the date are stripped by the caller, and
whatever follows the date after white space - the weekday of `01/02/2017  Mon`, a time - is cut off: the token handed to
`strptime` is exactly the date as written, so (by `strptime_strftimeWith` and `parseRow_of_date`) the row's transaction
carries exactly that date. -/
theorem date_cell_token_cut (T : Tables) (hT : TablesOk T) (spec : Spec) (sps : List Spell) (t : DateTime) (pre post : Str)
    (hf : FmtOk spec.dateFormat = true) (hfmt : spec.dateFormat.all (fun c => !isPySpace c) = true) (hv : t.valid = true)
    (hs : SpellsOk T sps spec.dateFormat t = true) (hpre : pre.all isPySpace = true)
    (hpost : post = [] ∨ ∃ c r, post = c :: r ∧ isPySpace c = true) :
    dateToken spec (strip (pre ++ strftimeWith sps spec.dateFormat t ++ post)) = some (strftimeWith sps spec.dateFormat t) := by
  obtain ⟨items, w⟩ := Written.of_spellsOk hf hv hs
  exact dateToken_first spec pre _ post (by simpa [List.any_eq_false, List.all_eq_true] using hfmt) w.ne_nil (w.noSpace hfmt) hpre hpost

/-- `the date cell` (format with a blank, e.g. `%d %b %y`): the whole cell, stripped of surrounding blanks, is handed to
`strptime`. -/
theorem date_cell_token_whole (T : Tables) (hT : TablesOk T) (spec : Spec) (sps : List Spell) (t : DateTime) (pre post : Str)
    (hf : FmtOk spec.dateFormat = true) (he : FmtEdgesOk spec.dateFormat = true)
    (hblank : spec.dateFormat.any isPySpace = true) (hv : t.valid = true)
    (hs : SpellsOk T sps spec.dateFormat t = true) (hpre : pre.all isPySpace = true) (hpost : post.all isPySpace = true) :
    dateToken spec (strip (pre ++ strftimeWith sps spec.dateFormat t ++ post)) = some (strftimeWith sps spec.dateFormat t) := by
  obtain ⟨items, w⟩ := Written.of_spellsOk hf hv hs
  unfold FmtEdgesOk at he
  simp only [w.compile, Bool.and_eq_true, Bool.not_eq_true'] at he
  obtain ⟨⟨hfirst, hlast⟩, -⟩ := he
  exact dateToken_whole spec pre _ post hblank (w.head_not_space hfirst) (w.last_not_space hlast) hpre hpost

private theorem row_carries_token (T : Tables) (hT : TablesOk T) (pf : Str → Option F64) (cfg : Cfg) (row : List Str)
    (sps : List Spell) (t : DateTime) (desc : Str) (caps : List (Str × Str)) (q : F64)
    (hf : FmtOk cfg.spec.dateFormat = true) (hv : t.valid = true) (hy : YearFits cfg.spec.dateFormat t = true)
    (hs : SpellsOk T sps cfg.spec.dateFormat t = true) (hlen : maxCol cfg.spec < row.length)
    (htok : dateToken cfg.spec (cell row cfg.spec.dateCol) = some (strftimeWith sps cfg.spec.dateFormat t))
    (hd : describe cfg.spec row = .ok (desc, caps)) (hdne : desc.isEmpty = false)
    (hane : (cell row cfg.spec.amountCol).isEmpty = false) (hq : rawAmount (oracles T pf) cfg row = some q)
    (hfin : q.isFinite = true) (hz : q.isZero = false) :
    parseRow (oracles T pf) cfg row =
      .ok (mkTxn cfg row desc caps (isoformat (readBack cfg.spec.dateFormat t)) q) := by
  -- the written date is not empty, so neither is the cell it was cut from
  have hne : (cell row cfg.spec.dateCol).isEmpty = false := by
    obtain ⟨items, w⟩ := Written.of_spellsOk hf hv hs
    cases hc : cell row cfg.spec.dateCol with
    | nil =>
      rw [hc] at htok
      unfold dateToken at htok
      split at htok
      · exact absurd (Option.some.inj htok).symm w.ne_nil
      · cases htok
    | cons c r => rfl
  exact parseRow_of_date T pf cfg row _ (readBack cfg.spec.dateFormat t) desc caps q
    ⟨hlen, ⟨desc, caps, hd, hdne⟩, hne, hane, htok⟩ hd (strptime_strftimeWith T hT _ sps t hf hv hy hs) hq hfin hz

/-- `carries the row's date`, end to end and with no date oracle (format without white space): a row with enough columns, a
non-empty description, an amount that is a finite non-zero number, and a date cell consisting of blanks, the date `t` written
under the row's own `FmtOk` date format in any accepted spelling, and then nothing or white space followed by anything (a
weekday …) becomes exactly one transaction, and that transaction's date is `t` (with the time fields the format mentions). -/
theorem row_carries_written_date (T : Tables) (hT : TablesOk T) (pf : Str → Option F64) (cfg : Cfg) (row : List Str)
    (sps : List Spell) (t : DateTime) (pre post desc : Str) (caps : List (Str × Str)) (q : F64)
    (hf : FmtOk cfg.spec.dateFormat = true) (hfmt : cfg.spec.dateFormat.all (fun c => !isPySpace c) = true)
    (hv : t.valid = true) (hy : YearFits cfg.spec.dateFormat t = true)
    (hs : SpellsOk T sps cfg.spec.dateFormat t = true) (hlen : maxCol cfg.spec < row.length)
    (hcell : row.getD cfg.spec.dateCol [] = pre ++ strftimeWith sps cfg.spec.dateFormat t ++ post)
    (hpre : pre.all isPySpace = true) (hpost : post = [] ∨ ∃ c r, post = c :: r ∧ isPySpace c = true)
    (hd : describe cfg.spec row = .ok (desc, caps)) (hdne : desc.isEmpty = false)
    (hane : (cell row cfg.spec.amountCol).isEmpty = false) (hq : rawAmount (oracles T pf) cfg row = some q)
    (hfin : q.isFinite = true) (hz : q.isZero = false) :
    parseRow (oracles T pf) cfg row =
      .ok (mkTxn cfg row desc caps (isoformat (readBack cfg.spec.dateFormat t)) q) :=
  row_carries_token T hT pf cfg row sps t desc caps q hf hv hy hs hlen
    (by unfold cell; rw [hcell]; exact date_cell_token_cut T hT cfg.spec sps t pre post hf hfmt hv hs hpre hpost)
    hd hdne hane hq hfin hz

/-- the same for a date format with a blank (`%d %b %y`): the cell is blanks, the written date, blanks -/
theorem row_carries_written_date_blank (T : Tables) (hT : TablesOk T) (pf : Str → Option F64) (cfg : Cfg) (row : List Str)
    (sps : List Spell) (t : DateTime) (pre post desc : Str) (caps : List (Str × Str)) (q : F64)
    (hf : FmtOk cfg.spec.dateFormat = true) (he : FmtEdgesOk cfg.spec.dateFormat = true)
    (hblank : cfg.spec.dateFormat.any isPySpace = true) (hv : t.valid = true) (hy : YearFits cfg.spec.dateFormat t = true)
    (hs : SpellsOk T sps cfg.spec.dateFormat t = true) (hlen : maxCol cfg.spec < row.length)
    (hcell : row.getD cfg.spec.dateCol [] = pre ++ strftimeWith sps cfg.spec.dateFormat t ++ post)
    (hpre : pre.all isPySpace = true) (hpost : post.all isPySpace = true)
    (hd : describe cfg.spec row = .ok (desc, caps)) (hdne : desc.isEmpty = false)
    (hane : (cell row cfg.spec.amountCol).isEmpty = false) (hq : rawAmount (oracles T pf) cfg row = some q)
    (hfin : q.isFinite = true) (hz : q.isZero = false) :
    parseRow (oracles T pf) cfg row =
      .ok (mkTxn cfg row desc caps (isoformat (readBack cfg.spec.dateFormat t)) q) :=
  row_carries_token T hT pf cfg row sps t desc caps q hf hv hy hs hlen
    (by unfold cell; rw [hcell]; exact date_cell_token_whole T hT cfg.spec sps t pre post hf he hblank hv hs hpre hpost)
    hd hdne hane hq hfin hz

/-! ### non-vacuity and observations for the date theorems (kernel-evaluated on the model) -/

def dateOf (r : Except StrpErr DateTime) : Option DateTime :=
  match r with
  | .ok t => some t
  | .error _ => none
def dateErr (r : Except StrpErr DateTime) : Option StrpErr :=
  match r with
  | .ok _ => none
  | .error e => some e

/-- the hypothesis on the character tables is satisfiable -/
example : TablesOk asciiTables := asciiTables_ok

/-- `FmtOk` holds for the formats people write for bank exports - with or without separators, with names, literal text and
times - and fails without a year, with a repeated directive, a stray `%`, an unknown or unsupported directive -/
example :
    (["%m/%d/%Y", "%d.%m.%Y", "%Y-%m-%d", "%d %b %y", "%b %d, %Y", "%m/%d/%y", "%Y%m%d", "%d-%b-%Y", "%Y-%m-%dT%H:%M:%S",
      "Posted %d %B %Y (%H:%M)", "%d%%%m%%%Y"].all fun f => FmtOk f.toList) = true ∧
    (["%m/%d", "%d/%d/%Y", "%m/%d/%Y%", "%e/%m/%Y", "%m/%d/%Y %z", "%j %Y"].all fun f => !FmtOk f.toList) = true := by
  simp only [List.all_cons, List.all_nil]
  repeat rw [String.toList_ofList]
  decide +kernel

/-- leap day, two-digit year, month name: hypotheses of `strptime_strftime` hold, the text is `29 Feb 24`, and it reads back -/
example :
    let t : DateTime := { year := 2024, month := 2, day := 29 }
    let fmt := "%d %b %y".toList
    FmtOk fmt = true ∧ t.valid = true ∧ YearFits fmt t = true ∧ strftime fmt t = "29 Feb 24".toList ∧
      dateOf (strptime asciiTables fmt (strftime fmt t)) = some t := by
  repeat rw [String.toList_ofList]
  decide +kernel

/-- another spelling: `1/5/2024 9:07` under `%m/%d/%Y %H:%M` (one-digit month, day, hour; the minute keeps its zero),
`5  JAN\t2024` under `%d %b %Y` - `SpellsOk` holds and both read back; the spelling `1/5/2024` is NOT accepted for
`%m%d%Y` (a digit follows the one-digit month) -/
example :
    let t : DateTime := { year := 2024, month := 1, day := 5, hour := 9, minute := 7 }
    let f1 := "%m/%d/%Y %H:%M".toList
    let s1 : List Spell := [{ unpad := true }, {}, { unpad := true }, {}, {}, {}, { unpad := true }, {}, {}]
    let f2 := "%d %b %Y".toList
    let s2 : List Spell := [{ unpad := true }, { blanks := some [' ', ' '] }, { name := some "JAN".toList }, { blanks := some ['\t'] }]
    SpellsOk asciiTables s1 f1 t = true ∧ strftimeWith s1 f1 t = "1/5/2024 9:07".toList ∧
      dateOf (strptime asciiTables f1 (strftimeWith s1 f1 t)) = some t ∧
    SpellsOk asciiTables s2 f2 t = true ∧ strftimeWith s2 f2 t = "5  JAN\t2024".toList ∧
      dateOf (strptime asciiTables f2 (strftimeWith s2 f2 t)) = some { year := 2024, month := 1, day := 5 } ∧
    SpellsOk asciiTables [{ unpad := true }, { unpad := true }] "%m%d%Y".toList t = false := by
  repeat rw [String.toList_ofList]
  decide +kernel

/-- **where ambiguity bites** (observation, not a defect): under `%m%d%Y` - `FmtOk`, but written with one-digit fields,
which `SpellsOk` refuses - 11 January 2024 and 1 November 2024 are both written `1112024`; `strptime` (CPython and the
model) reads 1 November: the first alternative of `%m` that matches is `1[0-2]`, and the rest can then still be matched.
Written by `strftime` (`01112024` / `11012024`) the two dates differ and both read back. -/
example :
    let fmt := "%m%d%Y".toList
    let one : List Spell := [{ unpad := true }, { unpad := true }]
    let jan11 : DateTime := { year := 2024, month := 1, day := 11 }
    let nov1 : DateTime := { year := 2024, month := 11, day := 1 }
    FmtOk fmt = true ∧ SpellsOk asciiTables one fmt jan11 = false ∧
    strftimeWith one fmt jan11 = "1112024".toList ∧ strftimeWith one fmt nov1 = "1112024".toList ∧
    dateOf (strptime asciiTables fmt "1112024".toList) = some nov1 ∧
    dateOf (strptime asciiTables fmt (strftime fmt jan11)) = some jan11 ∧
    dateOf (strptime asciiTables fmt (strftime fmt nov1)) = some nov1 := by
  repeat rw [String.toList_ofList]
  decide +kernel

/-- `rejection`, concretely, under `%m/%d/%Y`: wrong separator, month 13, day 32, 30 February, 29 February of a common year,
trailing text, nothing; and 29 February without a year (`%m/%d`: the year defaults to 1900), a repeated directive
(`re.error`, not a `ValueError`), a stray `%` -/
example :
    let f := "%m/%d/%Y".toList
    let r (s : String) := dateErr (strptime asciiTables f s.toList)
    r "01-15-2025" = some .noMatch ∧ r "13/01/2024" = some .noMatch ∧ r "01/32/2024" = some .noMatch ∧
    r "02/30/2024" = some .outOfRange ∧ r "02/29/2023" = some .outOfRange ∧ r "01/15/2025x" = some (.unconverted ['x']) ∧
    r "" = some .noMatch ∧ r "02/29/2024" = none ∧
    dateErr (strptime asciiTables "%m/%d".toList "02/29".toList) = some .outOfRange ∧
    dateErr (strptime asciiTables "%d/%d/%Y".toList "01/01/2024".toList) = some .reError ∧
    dateErr (strptime asciiTables "%m/%d/%Y%".toList "01/01/2024".toList) = some .stray := by
  repeat rw [String.toList_ofList]
  decide +kernel

/-- `float()` on the spelling used below -/
def datePf : Str → Option F64 := fun s => if s = ['1', '2', '.', '5'] then some ⟨false, 0x4029000000000000⟩ else none

/-- a table read with NO date oracle (`Strptime.oracles asciiTables`): `01/15/2025  Wed` (weekday cut off), `02/30/2025` (skipped
alone), ` 1/5/2025 ` (blanks stripped, one-digit fields) - two transactions, carrying 15 and 5 January 2025; the hypotheses
`ReachesDate` / `NoFatal` hold; and the same table under the format `%d/%d/%Y` aborts with `re.error` -/
example :
    let cfg : Cfg := { spec := d5Spec, eu := false, sourceName := ['B'] }
    let o := oracles asciiTables datePf
    let row (d : String) : List Str := [d.toList, "TEA".toList, "12.5".toList]
    let rows := [row "01/15/2025  Wed", row "02/30/2025", row " 1/5/2025 "]
    (∀ r ∈ rows, rowFatal o cfg r = false) ∧
    (match parseFile o cfg rows with
      | .ok ts => some (ts.map fun t => String.ofList t.date)
      | .error _ => none) = some ["2025-01-15T00:00:00", "2025-01-05T00:00:00"] ∧
    errOf (parseRow o cfg (row "02/30/2025")) = some .valueError ∧
    dateToken cfg.spec (cell (row "01/15/2025  Wed") 0) = some "01/15/2025".toList ∧
    (match parseFile o { cfg with spec := { d5Spec with dateFormat := "%d/%d/%Y".toList } } rows with
      | .ok _ => none
      | .error e => some e) = some .reError := by
  decide +kernel

/-- the hypotheses of `row_carries_written_date` hold for the row `  1/5/2025  Wed , TEA , 12.5` under `%m/%d/%Y` -/
example :
    let cfg : Cfg := { spec := d5Spec, eu := false, sourceName := ['B'] }
    let row : List Str := ["  1/5/2025  Wed ".toList, "TEA".toList, "12.5".toList]
    let t : DateTime := { year := 2025, month := 1, day := 5 }
    (okOf (parseRow (oracles asciiTables datePf) cfg row)).map (fun x => String.ofList x.date) = some "2025-01-05T00:00:00" := by
  intro cfg row _t
  have h := row_carries_written_date asciiTables asciiTables_ok datePf cfg row
    [{ unpad := true }, {}, { unpad := true }] _t "  ".toList "  Wed ".toList "TEA".toList [] ⟨false, 0x4029000000000000⟩
    (by decide +kernel) (by decide +kernel) (by decide +kernel) (by decide +kernel) (by decide +kernel)
    (by decide +kernel) (by decide +kernel) (by decide +kernel) (Or.inr ⟨' ', " Wed ".toList, by decide +kernel, by decide +kernel⟩)
    (by rfl) (by decide +kernel) (by decide +kernel) (by decide +kernel) (by decide +kernel) (by decide +kernel)
  rw [h]
  decide +kernel

end Date

/-! ### `parse_amount`'s constants, regenerated from the source

`Gen/AmountTables.lean` is rewritten on every run from parsers.py by `harness/translate/amount_tables.py`, which also checks that
`parse_amount` still is the seven-statement straight-line program the model is written for (strip, parenthesis test, currency class,
the removals and the conversion of the decimal mode, `float`, sign).  `Csv.cleanWith` spells out the statements before `float`; the
obligation below says that this program, over the constants the source holds NOW, is the hand model `cleanAmount` that every amount
theorem of this file is about (`float` and the sign are `parseAmount`'s: `amount_is_float_of_cleaned`).  Another currency symbol,
another thousands separator, a different parenthesis pair re-opens it (and the check then searches the real code for a cell read
differently). -/

/-- the amount cell tied to the source by regeneration (tie #1 of DESIGN.md §2.4): `parse_amount` before `float()`, over its
regenerated constants, = `Csv.cleanAmount`, for every decimal mode and cell -/
theorem amount_tables_are_the_model (eu : Bool) (cell : Str) :
    cleanWith Gen.AmountTables.parenOpen Gen.AmountTables.parenClose Gen.AmountTables.currencySymbols Gen.AmountTables.euSeparator
      Gen.AmountTables.euRemoved Gen.AmountTables.decimalPoint Gen.AmountTables.usRemoved eu cell = cleanAmount eu cell :=
  cleanWith_generated eu cell

/-- the program is not vacuous: with OTHER constants it reads cells differently (a rupee sign is not a currency symbol of the pinned code) -/
example : cleanWith '(' ')' ['$', '₹'] ',' ['.', ' '] '.' [','] false "₹1,250.50".toList = (false, "1250.50".toList) ∧
    cleanAmount false "₹1,250.50".toList = (false, "₹1250.50".toList) ∧
    cleanAmount true "(€ 1.234,56)".toList = (true, "1234.56".toList) := by
  repeat rw [String.toList_ofList]
  decide +kernel

end TallyVerif.Props.C05
