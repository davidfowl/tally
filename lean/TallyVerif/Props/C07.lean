/-
C07 — classification depends only on the current rules and the transaction, not on history.

Model: `History.step` (the process-wide caches as an explicit state machine) for an ARBITRARY
world (any parser, regex compiler, engine, legacy classifier, evaluator).  `fixD7 = true` is
`get_all_rules` after the repair.
-/
import TallyVerif.Model.History

namespace TallyVerif.Props.C07
open TallyVerif.History

/-- the invariants that make the caches transparent -/
structure Inv (W : World) (s : State W) : Prop where
  engine : s.cachedEngine = (match s.lastLoad with | some (.rules f) => some f | _ => none)
  exprs : ∀ e a, s.exprCache.lookup e = some a → a = W.parse e
  regexes : ∀ p r, s.regexCache.lookup p = some r → r = W.compile p

theorem inv_init (W : World) : Inv W (init W) :=
  ⟨rfl, by intro e a h; simp [init] at h, by intro p r h; simp [init] at h⟩

/-- what `Inv.exprs` and `Inv.regexes` say of their cache: every entry holds the value of `f` at its key -/
private def Memo {β : Type} (f : String → β) (c : List (String × β)) : Prop :=
  ∀ k v, c.lookup k = some v → v = f k

private theorem Memo.cons {β : Type} {f : String → β} {c : List (String × β)} (h : Memo f c) (q : String) :
    Memo f ((q, f q) :: c) := by
  intro k v hl
  rw [List.lookup_cons] at hl
  split at hl
  · next hk => rw [beq_iff_eq.mp hk]; exact (Option.some.inj hl).symm
  · exact h k v hl

private theorem Inv.regexFill {W : World} {s : State W} (h : Inv W s) (ps : List String) : Inv W (regexFill W s ps) := by
  refine ⟨h.engine, h.exprs, ?_⟩
  unfold History.regexFill
  refine List.foldlRecOn (motive := Memo W.compile) ps _ h.regexes fun c hc q _ => ?_
  split
  · exact hc
  · exact hc.cons q

private theorem Inv.parseCached {W : World} {s : State W} (h : Inv W s) (e : String) :
    Inv W (parseCached W s e).2 ∧ (parseCached W s e).1 = W.parse e := by
  unfold History.parseCached
  split
  · next a hit => exact ⟨h, h.exprs e a hit⟩
  · exact ⟨⟨h.engine, Memo.cons h.exprs e, h.regexes⟩, rfl⟩

private theorem classify_state (W : World) (fix : Bool) (used : List String) (s : State W) (t : W.Txn) :
    (step W fix used s (.classify t)).1 = s := by
  simp only [step]
  split
  · rfl
  · split <;> rfl

/-- every operation preserves the invariants (with the repair) -/
theorem inv_step (W : World) (used : List String) (s : State W) (op : Op W) (h : Inv W s) :
    Inv W (step W true used s op).1 := by
  cases op with
  | load l => cases l <;> exact ⟨rfl, h.exprs, h.regexes⟩
  | classify t => rw [classify_state]; exact h
  | eval e t => exact (h.parseCached e).1.regexFill used   -- the new state is `regexFill W (parseCached W s e).2 used`

theorem inv_run (W : World) (s : State W) (hist : List (Op W × List String)) (h : Inv W s) :
    Inv W (run W true s hist) := by
  induction hist generalizing s with
  | nil => exact h
  | cons x rest ih => exact ih _ (inv_step W x.2 s x.1 h)

private theorem compileCached_eq (W : World) {s : State W} (h : Memo W.compile s.regexCache) :
    compileCached W s = W.compile := by
  funext p
  fun_cases compileCached W s p with
  | case1 r hl => exact h p r hl
  | case2 => rfl

/-- in any state satisfying the invariants, an operation answers what a fresh process that only
performed the last load would answer -/
theorem step_eq_spec (W : World) (used : List String) (s : State W) (op : Op W) (h : Inv W s) :
    (step W true used s op).2 = spec W s.lastLoad op := by
  cases op with
  | load l => cases l <;> rfl
  | classify t =>
    simp only [step, spec, h.engine]
    cases s.lastLoad with
    | none => rfl
    | some l => cases l <;> rfl
  | eval e t =>
    obtain ⟨h1, ha⟩ := h.parseCached e
    -- `let (a, s1) := parseCached W s e` of `step`, in projections
    show Out.res (W.evalAst (parseCached W s e).1 (compileCached W (parseCached W s e).2) t) = _
    rw [ha, compileCached_eq W h1.regexes]; rfl

/-- **History independence.** After ANY history of loads, classifications and evaluations (in any
order, any number of times, whatever patterns were compiled on the way), the next operation gives
exactly the answer of a fresh process that performed only the most recent load. -/
theorem history_independent (W : World) (hist : List (Op W × List String)) (used : List String) (op : Op W) :
    (step W true used (run W true (init W) hist) op).2 = spec W (run W true (init W) hist).lastLoad op :=
  step_eq_spec W used _ op (inv_run W _ hist (inv_init W))

/-- classifying never changes which rules are current -/
theorem classify_keeps_rules (W : World) (fix : Bool) (used : List String) (s : State W) (t : W.Txn) :
    (step W fix used s (.classify t)).1.lastLoad = s.lastLoad ∧
    (step W fix used s (.classify t)).1.cachedEngine = s.cachedEngine := by
  rw [classify_state]; exact ⟨rfl, rfl⟩

/-- The code AS PINNED (`fixD7 = false`) is history dependent: load a .rules file, load a CSV file,
classify — the answer still comes from the .rules engine. (DESIGN.md §6 D7) -/
theorem stale_engine_unrepaired :
    let W : World := ⟨String, String, Unit, String, String, String, id, id, fun f _ => "engine:" ++ f,
      fun f _ => "legacy:" ++ f, fun a _ _ => a⟩
    let s := run W false (init W) [(.load (.rules "A"), []), (.load (.csv "B"), [])]
    (match (step W false [] s (.classify ())).2 with | .res r => r | _ => "") = "engine:A" ∧
    (match spec W s.lastLoad (.classify ()) with | .res r => r | _ => "") = "legacy:B" ∧
    (match (step W true [] (run W true (init W) [(.load (.rules "A"), []), (.load (.csv "B"), [])]) (.classify ())).2 with
      | .res r => r | _ => "") = "legacy:B" := by
  decide +kernel

end TallyVerif.Props.C07
