/-!
# M-Fs — file-system model of tally's migrations and commands (properties C15, C20)

* `FS κ` is an association list `Path ↦ Node κ`; a file's content is a list of *chunks*; user content
  is the opaque chunk `orig a m` (`a : κ` arbitrary, `m` the few attributes the code branches on).
* The machine `M` executes Python-level file-system *events* (`open(..,'w')`, `write`, `close`,
  `open(..,'a')`, `shutil.move`, `os.replace`, `os.makedirs`), one counter tick per event, mirroring the
  statement order of `_migrate_csv_to_rules`, `_check_merchant_migration`, `cmd_init`/`init_config`,
  `run_migrations`/`migrate_v0_to_v1` and the report writing of `cmd_run`.  Guards (`os.path.exists`, text
  tests on settings.yaml) are evaluated on the *current* state exactly where the code evaluates them.
* `crashAt k partial`: the state after `k` events of the undisturbed run, with the in-flight file
  (opened, not yet closed) holding none / half / all of what was written to it.
* `faultAt k`: event `k` raises `OSError`; the enclosing `with` closes the file, then the code's own
  `try/except` decides: the CSV migration and the views append swallow it, `init_config` propagates.
* `effectiveRules`: `load_config`'s merchants-file resolution (settings `merchants_file:` key, else
  legacy `merchant_categories.csv`, else nothing).

Variants (`CsvVariant`, `LayoutVariant`) select between the statement order of the code as it is
(`impl`) and the proposed repairs; which one is current is read off `Gen/FsSteps.lean`.
Core Lean only (linked into `tvdrv`).
-/
namespace TallyVerif.Fs

/-! ## paths -/

/-- where a budget lives relative to the working directory: `./` (old layout) or `./tally/` (new) -/
inductive Loc | top | tally
  deriving DecidableEq, Repr, Inhabited

inductive Rel
  | configDir | dataDir | outputDir | tallyDir
  | settings | rules | rulesTmp | rulesBak | rulesBak1 | rulesBak2
  | csv | csvBak | csvBak1 | csvBak2
  | views | other | schema | stmt | report | gitignore
  deriving DecidableEq, Repr, Inhabited

structure Path where
  loc : Loc
  rel : Rel
  deriving DecidableEq, Repr, Inhabited

/-- the directory (of the three a layout migration moves) a relative path lives in -/
def Rel.parent : Rel → Option Rel
  | .settings | .rules | .rulesTmp | .rulesBak | .rulesBak1 | .rulesBak2
  | .csv | .csvBak | .csvBak1 | .csvBak2 | .views | .other | .schema => some .configDir
  | .stmt => some .dataDir
  | .report => some .outputDir
  | _ => none

def Rel.toString : Rel → String
  | .configDir => "config" | .dataDir => "data" | .outputDir => "output" | .tallyDir => "tally"
  | .settings => "config/settings.yaml" | .rules => "config/merchants.rules"
  | .rulesTmp => "config/merchants.rules.tmp"
  | .rulesBak => "config/merchants.rules.bak" | .rulesBak1 => "config/merchants.rules.bak.1"
  | .rulesBak2 => "config/merchants.rules.bak.2"
  | .csv => "config/merchant_categories.csv" | .csvBak => "config/merchant_categories.csv.bak"
  | .csvBak1 => "config/merchant_categories.csv.bak.1" | .csvBak2 => "config/merchant_categories.csv.bak.2"
  | .views => "config/views.rules" | .other => "config/other.rules" | .schema => "config/.tally-schema"
  | .stmt => "data/bank.csv" | .report => "output/spending_summary.html" | .gitignore => ".gitignore"

def Path.toString (p : Path) : String :=
  match p.loc with
  | .top => p.rel.toString
  | .tally => "tally/" ++ p.rel.toString

/-! ## contents -/

inductive Kind | settings | csvRules | rulesFile | data | other
  deriving DecidableEq, Repr, Inhabited

/-- the attributes of a user file the code branches on (all other bytes are opaque) -/
structure Meta where
  kind : Kind := .other
  /-- the text `merchants_file:` occurs somewhere (possibly only in a comment) -/
  mentionsMF : Bool := false
  /-- the YAML key `merchants_file` and the file it names -/
  keyMF : Option Rel := none
  /-- the text `views_file:` occurs somewhere -/
  mentionsVF : Bool := false
  /-- a legacy CSV has at least one line that is neither blank, comment nor header -/
  hasRules : Bool := true
  /-- settings.yaml lists data sources (otherwise `tally up` stops before touching rules) -/
  hasSources : Bool := true
  deriving DecidableEq, Repr, Inhabited

inductive Starter | settings | merchants | views | gitignore | schema | report | junk
  deriving DecidableEq, Repr, Inhabited

inductive Line | mfComment | mfKey | vfComment | vfKey
  deriving DecidableEq, Repr, Inhabited

inductive Chunk (κ : Type) where
  /-- opaque user content `a` -/
  | orig (a : κ) (m : Meta)
  /-- `csv_to_merchants_content` of the CSV whose content is `a` -/
  | migrated (a : κ)
  | starter (s : Starter)
  | line (l : Line)
  /-- a proper, non-empty initial piece of a chunk (torn in-flight write) -/
  | cut (c : Chunk κ)
  deriving DecidableEq, Repr, Inhabited

abbrev Content (κ : Type) := List (Chunk κ)

inductive Node (κ : Type) where
  | dir
  | file (c : Content κ)
  deriving DecidableEq, Repr, Inhabited

abbrev FS (κ : Type) := List (Path × Node κ)

variable {κ : Type}

def lookup (fs : FS κ) (p : Path) : Option (Node κ) :=
  match fs with
  | [] => none
  | (q, n) :: rest => if q = p then some n else lookup rest p

def fileAt (fs : FS κ) (p : Path) : Option (Content κ) :=
  match lookup fs p with
  | some (.file c) => some c
  | _ => none

def isDir (fs : FS κ) (p : Path) : Bool :=
  match lookup fs p with
  | some .dir => true
  | _ => false

def pathExists (fs : FS κ) (p : Path) : Bool := (lookup fs p).isSome

def remove (fs : FS κ) (p : Path) : FS κ := fs.filter fun e => !decide (e.1 = p)

/-- set (create or replace) the node at `p`; position in the list is irrelevant for `lookup` -/
def setNode (fs : FS κ) (p : Path) (n : Node κ) : FS κ := (p, n) :: remove fs p

/-! ## content attributes (what `load_config` / the migration read out of a file) -/

def Chunk.mentionsMF : Chunk κ → Bool
  | .orig _ m => m.mentionsMF
  | .line .mfKey => true
  | .starter .settings => true
  | _ => false

def Chunk.keyMF : Chunk κ → Option Rel
  | .orig _ m => m.keyMF
  | .line .mfKey => some .rules
  | .starter .settings => some .rules
  | _ => none

def Chunk.mentionsVF : Chunk κ → Bool
  | .orig _ m => m.mentionsVF
  | .line .vfKey => true
  | .starter .settings => true          -- the starter carries `# views_file: …` as a comment
  | _ => false

def mentionsMF (c : Content κ) : Bool := c.any Chunk.mentionsMF
def mentionsVF (c : Content κ) : Bool := c.any Chunk.mentionsVF
def keyMF (c : Content κ) : Option Rel := c.findSome? Chunk.keyMF


def hasSources (c : Content κ) : Bool :=
  c.any fun ch => match ch with | .orig _ m => m.hasSources | _ => false

def csvHasRules (c : Content κ) : Bool :=
  c.any fun ch => match ch with | .orig _ m => m.hasRules | _ => false

/-- the chunk carries (some of) the user's categorisation rules -/
def Chunk.bearsRules : Chunk κ → Bool
  | .orig _ m => (m.kind = .csvRules && m.hasRules) || m.kind = .rulesFile
  | .migrated _ => true
  | .cut (.migrated _) => true
  | _ => false

/-! ## effective rules: `config_loader.load_config` -/

inductive RuleSrc (κ : Type) where
  /-- no config directory / no settings.yaml: the command stops with an error -/
  | err
  /-- "No merchant rules found" -/
  | none
  | csv (c : Content κ)
  | rules (c : Content κ)
  deriving DecidableEq, Repr, Inhabited

/-- settings.yaml parses to a mapping: not empty (`safe_load` gives `None`) and not a torn starter file -/
def loadable : Content κ → Bool
  | [] => false
  | .cut _ :: _ => false
  | _ => true

def effectiveRules (loc : Loc) (fs : FS κ) : RuleSrc κ :=
  if isDir fs ⟨loc, .configDir⟩ then
    match fileAt fs ⟨loc, .settings⟩ with
    | Option.none => .err
    | some sc =>
      if !loadable sc then .err else
      match keyMF sc with
      | some target =>
        match fileAt fs ⟨loc, target⟩ with
        | some c => .rules c
        | Option.none => .none
      | Option.none =>
        match fileAt fs ⟨loc, .csv⟩ with
        | some c => .csv c
        | Option.none => .none
  else .err

/-- `cli.find_config_dir` (without TALLY_CONFIG): `./config` first, then `./tally/config` -/
def findConfigDir (fs : FS κ) : Option Loc :=
  if isDir fs ⟨.top, .configDir⟩ then some .top
  else if isDir fs ⟨.tally, .configDir⟩ then some .tally
  else Option.none

/-- what `tally up` (run from the working directory) classifies with: rules and statement file -/
structure Eff (κ : Type) where
  rules : RuleSrc κ
  data : Option (Content κ)
  deriving DecidableEq, Repr

def effective (fs : FS κ) : Eff κ :=
  match findConfigDir fs with
  | Option.none => ⟨.err, Option.none⟩
  | some loc =>
    match fileAt fs ⟨loc, .settings⟩ with
    | Option.none => ⟨.err, Option.none⟩
    | some sc =>
      -- the statement file is found through the `data_sources` of settings.yaml, relative to the budget directory
      ⟨effectiveRules loc fs, if loadable sc && hasSources sc then fileAt fs ⟨loc, .stmt⟩ else Option.none⟩

/-- the rule set is empty: nothing found, or the file in effect carries no rule -/
def RuleSrc.isEmpty : RuleSrc κ → Bool
  | .none => true
  | .rules c => !c.any Chunk.bearsRules
  | .csv c => !c.any Chunk.bearsRules
  | .err => false

def RuleSrc.usable : RuleSrc κ → Bool
  | .csv c => c.any Chunk.bearsRules
  | .rules c => c.any Chunk.bearsRules
  | _ => false

/-- same classification: identical source, or a CSV and its complete conversion (C14) -/
def RuleSrc.equiv [DecidableEq κ] (a b : RuleSrc κ) : Bool :=
  decide (a = b) ||
  (match a, b with
   | .csv [.orig x _], .rules [.migrated y] => decide (x = y)
   | .rules [.migrated y], .csv [.orig x _] => decide (x = y)
   | _, _ => false)

def rulesOnDisk (fs : FS κ) : Bool :=
  fs.any fun e => match e.2 with
    | .file c => c.any Chunk.bearsRules
    | .dir => false

/-! ## the machine -/

structure InFlight (κ : Type) where
  path : Path
  base : Content κ
  pending : Content κ
  deriving DecidableEq, Repr

inductive Ev (κ : Type) where
  | openW (p : Path)
  | openA (p : Path)
  | write (c : Chunk κ)
  | close
  | move (a b : Path)
  | replace (a b : Path)
  | mkdir (p : Path)
  /-- `shutil.move` of one of the three budget directories from `./` to `./tally/` -/
  | moveDir (r : Rel)
  deriving DecidableEq, Repr

/-- event kinds, for comparing the model's trace with the audit / injection trace of the real run -/
def Ev.tag : Ev κ → String
  | .openW p => "openW " ++ p.toString
  | .openA p => "openA " ++ p.toString
  | .write _ => "write"
  | .close => "close"
  | .move a b => "move " ++ a.toString ++ " -> " ++ b.toString
  | .replace a b => "replace " ++ a.toString ++ " -> " ++ b.toString
  | .mkdir p => "mkdir " ++ p.toString
  | .moveDir r => "move " ++ r.toString ++ " -> tally/" ++ r.toString

/-- `close` cannot be made to fail by the injector (it is only a crash point) -/
def Ev.faultable : Ev κ → Bool
  | .close => false
  | _ => true

structure Snap (κ : Type) where
  fs : FS κ
  fl : Option (InFlight κ)

structure M (κ : Type) where
  fs : FS κ
  fl : Option (InFlight κ) := none
  /-- number of events performed (or attempted) so far -/
  n : Nat := 0
  /-- index of the event that raises `OSError` -/
  fault : Option Nat := none
  /-- snapshots after each event, oldest first -/
  hist : List (Snap κ) := []
  /-- the events, oldest first (`none` = the event that raised) -/
  evs : List (Ev κ × Bool) := []
  /-- a directory move met an existing target: outside the modelled shapes -/
  outOfModel : Bool := false

inductive Res (κ : Type) where
  | ok (m : M κ)
  /-- an `OSError` is propagating -/
  | faulted (m : M κ)

def Res.m : Res κ → M κ
  | .ok m => m
  | .faulted m => m

def Res.andThen (r : Res κ) (f : M κ → Res κ) : Res κ :=
  match r with
  | .ok m => f m
  | .faulted m => .faulted m

infixl:55 " ⊳ " => Res.andThen

/-- what is on disk once the in-flight file is closed -/
def flushed (fs : FS κ) (fl : Option (InFlight κ)) : FS κ :=
  match fl with
  | Option.none => fs
  | some f => setNode fs f.path (.file (f.base ++ f.pending))

def relUnder (d : Rel) (r : Rel) : Bool := decide (r = d) || decide (r.parent = some d)

def applyEv (fs : FS κ) (fl : Option (InFlight κ)) : Ev κ → FS κ × Option (InFlight κ) × Bool
  | .openW p => (setNode (flushed fs fl) p (.file []), some ⟨p, [], []⟩, false)
  | .openA p =>
    let fs := flushed fs fl
    let base := (fileAt fs p).getD []
    (setNode fs p (.file base), some ⟨p, base, []⟩, false)
  | .write c =>
    match fl with
    | some f => (fs, some { f with pending := f.pending ++ [c] }, false)
    | Option.none => (fs, Option.none, false)
  | .close => (flushed fs fl, Option.none, false)
  | .move a b | .replace a b =>
    match lookup fs a with
    | some n => (setNode (remove fs a) b n, fl, false)
    | Option.none => (fs, fl, false)
  | .mkdir p =>
    -- `os.makedirs(…, exist_ok=True)`: also creates `./tally` for a path below it
    let fs := if p.loc = .tally && !pathExists fs ⟨.top, .tallyDir⟩ then setNode fs ⟨.top, .tallyDir⟩ .dir else fs
    (if pathExists fs p then fs else setNode fs p .dir, fl, false)
  | .moveDir d =>
    if pathExists fs ⟨.tally, d⟩ then (fs, fl, true)
    else
      (fs.map fun e => if e.1.loc = .top && relUnder d e.1.rel then (⟨.tally, e.1.rel⟩, e.2) else e, fl, false)

/-- perform one event (or let it raise, if it is the chosen fault) -/
def ev (e : Ev κ) (m : M κ) : Res κ :=
  if m.fault = some m.n && e.faultable then
    -- OSError: the `with` block closes the file that is open
    let fs := flushed m.fs m.fl
    .faulted { m with fs := fs, fl := Option.none, n := m.n + 1, fault := Option.none,
                      hist := m.hist ++ [⟨fs, Option.none⟩], evs := m.evs ++ [(e, true)] }
  else
    let (fs, fl, oom) := applyEv m.fs m.fl e
    .ok { m with fs := fs, fl := fl, n := m.n + 1, hist := m.hist ++ [⟨fs, fl⟩], evs := m.evs ++ [(e, false)],
                 outOfModel := m.outOfModel || oom }

/-- `try: … except Exception/OSError: …` — returns the state and whether the body completed -/
def tryCatch (body : M κ → Res κ) (m : M κ) : M κ × Bool :=
  match body m with
  | .ok m' => (m', true)
  | .faulted m' => (m', false)

/-- `with open(p, 'w') as f: f.write(c)` -/
def writeFile (p : Path) (c : Chunk κ) (m : M κ) : Res κ :=
  ev (.openW p) m ⊳ ev (.write c) ⊳ ev .close

def appendLines (p : Path) (l1 l2 : Line) (m : M κ) : Res κ :=
  ev (.openA p) m ⊳ ev (.write (.line l1)) ⊳ ev (.write (.line l2)) ⊳ ev .close

/-! ## CSV → .rules migration (`cli._migrate_csv_to_rules`) -/

/-- which statement order / naming the code has (`impl` = all `false`) -/
structure CsvVariant where
  /-- write to a temporary name + `os.replace`, append the settings line, move the CSV away *last* -/
  reorder : Bool
  /-- backups go to the first free name; an existing merchants.rules is backed up, not overwritten -/
  fresh : Bool
  /-- the settings line is appended unless a `merchants_file:` *key* exists (not: the text occurs) -/
  keyCheck : Bool
  deriving DecidableEq, Repr, Inhabited

def CsvVariant.impl : CsvVariant := ⟨false, false, false⟩
def CsvVariant.repaired : CsvVariant := ⟨true, true, true⟩

def firstFree (fs : FS κ) (loc : Loc) : List Rel → Rel → Rel
  | [], d => d
  | r :: rest, d => if pathExists fs ⟨loc, r⟩ then firstFree fs loc rest d else r

def csvBackupName (v : CsvVariant) (fs : FS κ) (loc : Loc) : Rel :=
  if v.fresh then firstFree fs loc [.csvBak, .csvBak1, .csvBak2] .csvBak2 else .csvBak

def rulesBackupName (fs : FS κ) (loc : Loc) : Rel :=
  firstFree fs loc [.rulesBak, .rulesBak1, .rulesBak2] .rulesBak2

def migratedChunk (c : Option (Content κ)) : Chunk κ :=
  match c with
  | some [.orig a _] => .migrated a
  | _ => .starter .junk

def settingsAppend (v : CsvVariant) (loc : Loc) (m : M κ) : Res κ :=
  match fileAt m.fs ⟨loc, .settings⟩ with
  | Option.none => .ok m
  | some sc =>
    if (if v.keyCheck then (keyMF sc).isSome else mentionsMF sc) then .ok m
    else appendLines ⟨loc, .settings⟩ .mfComment .mfKey m

def backupCsv (v : CsvVariant) (loc : Loc) (m : M κ) : Res κ :=
  if pathExists m.fs ⟨loc, .csv⟩ then ev (.move ⟨loc, .csv⟩ ⟨loc, csvBackupName v m.fs loc⟩) m else .ok m

def migrateCsvBody (v : CsvVariant) (loc : Loc) (m : M κ) : Res κ :=
  let newC := migratedChunk (fileAt m.fs ⟨loc, .csv⟩)
  if v.reorder then
    (if v.fresh && pathExists m.fs ⟨loc, .rules⟩
      then ev (.move ⟨loc, .rules⟩ ⟨loc, rulesBackupName m.fs loc⟩) m else .ok m)
    ⊳ writeFile ⟨loc, .rulesTmp⟩ newC
    ⊳ ev (.replace ⟨loc, .rulesTmp⟩ ⟨loc, .rules⟩)
    ⊳ settingsAppend v loc
    ⊳ backupCsv v loc
  else
    (if v.fresh && pathExists m.fs ⟨loc, .rules⟩
      then ev (.move ⟨loc, .rules⟩ ⟨loc, rulesBackupName m.fs loc⟩) m else .ok m)
    ⊳ writeFile ⟨loc, .rules⟩ newC
    ⊳ backupCsv v loc
    ⊳ settingsAppend v loc

/-- `_migrate_csv_to_rules`: the body inside `try … except Exception: return False` -/
def migrateCsv (v : CsvVariant) (loc : Loc) (m : M κ) : M κ × Bool := tryCatch (migrateCsvBody v loc) m

/-! ## commands -/

/-- what the current run of `tally up` ended up classifying with -/
inductive RunOut (κ : Type) where
  | error
  | used (r : RuleSrc κ)
  deriving DecidableEq, Repr

/-- `get_all_rules(path)` after the migration step of this run -/
def rulesNow (fs : FS κ) (p : Path) (asCsv : Bool) : RuleSrc κ :=
  match fileAt fs p with
  | some c => if asCsv then .csv c else .rules c
  | Option.none => .none          -- `load_merchant_rules` of a missing path is `[]`

/-- `cmd_run` up to and including `_check_merchant_migration` (non-interactive) -/
def upRules (v : CsvVariant) (migrate : Bool) (m : M κ) : M κ × RunOut κ :=
  match findConfigDir m.fs with
  | Option.none => (m, .error)
  | some loc =>
    match effectiveRules loc m.fs with
    | .err => (m, .error)
    | .none => (m, .used .none)
    | .rules c => (m, .used (.rules c))
    | .csv c =>
      if !hasSources ((fileAt m.fs ⟨loc, .settings⟩).getD []) then (m, .error) else
      if migrate then
        let (m', ok) := migrateCsv v loc m
        if ok then (m', .used (rulesNow m'.fs ⟨loc, .rules⟩ false))
        else (m', .used (rulesNow m'.fs ⟨loc, .csv⟩ true))
      else (m, .used (.csv c))

/-- the whole of `tally up`: rules (with optional migration), then the HTML report -/
def cmdUp (v : CsvVariant) (migrate : Bool) (html : Bool) (m : M κ) : Res κ :=
  match findConfigDir m.fs with
  | Option.none => .ok m
  | some loc =>
    match fileAt m.fs ⟨loc, .settings⟩ with
    | Option.none => .ok m
    | some sc =>
      if !hasSources sc then .ok m else
      let (m', out) := upRules v migrate m
      match out with
      | .error => .ok m'
      | .used _ =>
        -- "Error: No transactions found" (exit 1) comes before any output is written
        if (fileAt m'.fs ⟨loc, .stmt⟩).isNone then .ok m' else
        if html then
          ev (.mkdir ⟨loc, .outputDir⟩) m' ⊳ writeFile ⟨loc, .report⟩ (.starter .report)
        else .ok m'

def createIfMissing (p : Path) (s : Starter) (m : M κ) : Res κ :=
  if pathExists m.fs p then .ok m else writeFile p (.starter s) m

def viewsAppendBody (loc : Loc) (m : M κ) : Res κ :=
  match fileAt m.fs ⟨loc, .settings⟩ with
  | Option.none => .ok m
  | some sc =>
    if pathExists m.fs ⟨loc, .views⟩ && !mentionsVF sc then appendLines ⟨loc, .settings⟩ .vfComment .vfKey m
    else .ok m

/-- `commands/init.cmd_init` with the budget directory `loc` as target -/
def cmdInit (v : CsvVariant) (loc : Loc) (m : M κ) : Res κ :=
  let m1 :=
    match fileAt m.fs ⟨loc, .csv⟩ with
    | some c =>
      if !pathExists m.fs ⟨loc, .rules⟩ && csvHasRules c then (migrateCsv v loc m).1 else m
    | Option.none => m
  ev (.mkdir ⟨loc, .configDir⟩) m1
    ⊳ ev (.mkdir ⟨loc, .dataDir⟩)
    ⊳ ev (.mkdir ⟨loc, .outputDir⟩)
    ⊳ createIfMissing ⟨loc, .settings⟩ .settings
    ⊳ createIfMissing ⟨loc, .rules⟩ .merchants
    ⊳ createIfMissing ⟨loc, .views⟩ .views
    ⊳ createIfMissing ⟨loc, .gitignore⟩ .gitignore
    ⊳ fun m => .ok (tryCatch (viewsAppendBody loc) m).1

inductive LayoutVariant | impl | configLast
  deriving DecidableEq, Repr, Inhabited

def schemaVersion (fs : FS κ) (loc : Loc) : Nat :=
  match fileAt fs ⟨loc, .schema⟩ with
  | some [.starter .schema] => 1
  | _ => 0

def moveIfDir (d : Rel) (m : M κ) : Res κ :=
  if isDir m.fs ⟨.top, d⟩ then ev (.moveDir d) m else .ok m

def migrateLayoutBody (v : LayoutVariant) (m : M κ) : Res κ :=
  match v with
  | .impl =>
    ev (.mkdir ⟨.top, .tallyDir⟩) m
      ⊳ ev (.moveDir .configDir)
      ⊳ moveIfDir .dataDir
      ⊳ moveIfDir .outputDir
      ⊳ writeFile ⟨.tally, .schema⟩ (.starter .schema)
  | .configLast =>
    ev (.mkdir ⟨.top, .tallyDir⟩) m
      ⊳ moveIfDir .dataDir
      ⊳ moveIfDir .outputDir
      ⊳ ev (.moveDir .configDir)
      ⊳ writeFile ⟨.tally, .schema⟩ (.starter .schema)

/-- `run_migrations(find_config_dir(), skip_confirm=True)` as `tally update --yes` calls it -/
def cmdLayout (v : LayoutVariant) (m : M κ) : Res κ :=
  match findConfigDir m.fs with
  | Option.none => .ok m
  | some loc =>
    if schemaVersion m.fs loc ≥ 1 then .ok m
    else if loc ≠ .top then .ok m            -- `dirname(old_config_dir) != os.getcwd()`: refuses
    else .ok (tryCatch (migrateLayoutBody v) m).1

/-! ## programs, crash and fault injection -/

inductive Prog
  | upMigrate        -- `tally up --migrate` (rules part; `_check_merchant_migration(…, migrate=True)`)
  | init             -- `tally init` (default target: `.` if ./config exists, else ./tally)
  | layout           -- `tally update --yes` (layout migration)
  | up               -- `tally up` (no `--migrate`), HTML report
  | upMigrateHtml    -- `tally up --migrate`, whole command with HTML report
  | readOnly         -- `explain`, `discover`, `diag`, `inspect`, `up --format summary|json|markdown`
  deriving DecidableEq, Repr, Inhabited

structure Variants where
  csv : CsvVariant
  layout : LayoutVariant
  deriving DecidableEq, Repr, Inhabited

def Variants.impl : Variants := ⟨.impl, .impl⟩
def Variants.repaired : Variants := ⟨.repaired, .configLast⟩

def runProg (v : Variants) (p : Prog) (m : M κ) : Res κ × RunOut κ :=
  match p with
  | .upMigrate => let (m', o) := upRules v.csv true m; (.ok m', o)
  | .init => (cmdInit v.csv (if isDir m.fs ⟨.top, .configDir⟩ then .top else .tally) m, .error)
  | .layout => (cmdLayout v.layout m, .error)
  | .up => (cmdUp v.csv false true m, .error)
  | .upMigrateHtml => (cmdUp v.csv true true m, .error)
  | .readOnly => (.ok m, .error)

def start (fs : FS κ) (fault : Option Nat := none) : M κ := { fs := fs, fault := fault }

/-- undisturbed run -/
def complete (v : Variants) (p : Prog) (fs : FS κ) : M κ := (runProg v p (start fs)).1.m

/-- re-running the same command on whatever is there -/
def rerun (v : Variants) (p : Prog) (fs : FS κ) : FS κ := (complete v p fs).fs

def numEvents (v : Variants) (p : Prog) (fs : FS κ) : Nat := (complete v p fs).n

inductive Partial | empty | half | full
  deriving DecidableEq, Repr, Inhabited

/-- how much of what was written to the in-flight file reached the disk -/
def applyPartial : Partial → Content κ → Content κ
  | .empty, _ => []
  | .full, l => l
  | .half, [] => []
  | .half, [c] => [.cut c]
  | .half, l => l.take (l.length / 2)

def materialize (part : Partial) (s : Snap κ) : FS κ :=
  match s.fl with
  | Option.none => s.fs
  | some f => setNode s.fs f.path (.file (f.base ++ applyPartial part f.pending))

/-- all crash snapshots: before the first event, then after each event -/
def snapshots (v : Variants) (p : Prog) (fs : FS κ) : List (Snap κ) :=
  ⟨fs, Option.none⟩ :: (complete v p fs).hist

/-- the process dies after `k` events (`k ≥` number of events: it ran to completion) -/
def crashAt (v : Variants) (p : Prog) (fs : FS κ) (k : Nat) (part : Partial) : FS κ :=
  materialize part ((snapshots v p fs).getD k ⟨(complete v p fs).fs, Option.none⟩)

/-- event `k` raises `OSError`; the code's own handlers run; `(final tree, what this run used)` -/
def faultAt (v : Variants) (p : Prog) (fs : FS κ) (k : Nat) : FS κ × RunOut κ :=
  let r := runProg v p (start fs (some k))
  (flushed r.1.m.fs r.1.m.fl, r.2)

/-! ## shapes: the initial budgets the theorems range over -/

inductive SettingsKind
  | absent
  | plain            -- no mention of `merchants_file:`
  | commentMF        -- `# merchants_file: …` only in a comment
  | keyRules         -- `merchants_file: config/merchants.rules`
  | keyOther         -- `merchants_file: config/other.rules`, and that file exists
  deriving DecidableEq, Repr, Inhabited

inductive CsvKind | absent | headerOnly | withRules
  deriving DecidableEq, Repr, Inhabited

structure Shape where
  settings : SettingsKind
  csv : CsvKind
  rules : Bool          -- config/merchants.rules exists
  csvBak : Bool         -- config/merchant_categories.csv.bak exists
  views : Bool
  mentionsVF : Bool     -- settings (if present) mentions `views_file:`
  dirs : Bool           -- data/ (with a statement) and output/ exist
  deriving DecidableEq, Repr, Inhabited

def bools : List Bool := [false, true]

def shapesOf (s : SettingsKind) : List Shape :=
  [CsvKind.absent, .headerOnly, .withRules].flatMap fun c =>
  bools.flatMap fun r => bools.flatMap fun b => bools.flatMap fun vw =>
  bools.flatMap fun mv => bools.map fun d => ⟨s, c, r, b, vw, mv, d⟩

def allShapes : List Shape :=
  shapesOf .absent ++ shapesOf .plain ++ shapesOf .commentMF ++ shapesOf .keyRules ++ shapesOf .keyOther

def settingsMeta (k : SettingsKind) (mv : Bool) : Meta :=
  match k with
  | .absent | .plain => { kind := .settings, mentionsVF := mv }
  | .commentMF => { kind := .settings, mentionsMF := true, mentionsVF := mv }
  | .keyRules => { kind := .settings, mentionsMF := true, keyMF := some .rules, mentionsVF := mv }
  | .keyOther => { kind := .settings, mentionsMF := true, keyMF := some .other, mentionsVF := mv }

def optFile (b : Bool) (p : Path) (c : Chunk κ) : FS κ := if b then [(p, .file [c])] else []

/-- the budget of shape `s` at `./`, every user file holding its own opaque content `u <path>` -/
def Shape.fs (s : Shape) (u : Rel → κ) : FS κ :=
  [(⟨.top, .configDir⟩, Node.dir)]
  ++ optFile (s.settings ≠ .absent) ⟨.top, .settings⟩ (.orig (u .settings) (settingsMeta s.settings s.mentionsVF))
  ++ optFile (s.csv ≠ .absent) ⟨.top, .csv⟩ (.orig (u .csv) { kind := .csvRules, hasRules := s.csv = .withRules })
  ++ optFile s.rules ⟨.top, .rules⟩ (.orig (u .rules) { kind := .rulesFile })
  ++ optFile s.csvBak ⟨.top, .csvBak⟩ (.orig (u .csvBak) { kind := .other })
  ++ optFile (s.settings = .keyOther) ⟨.top, .other⟩ (.orig (u .other) { kind := .rulesFile })
  ++ optFile s.views ⟨.top, .views⟩ (.orig (u .views) { kind := .other })
  ++ (if s.dirs then [(⟨.top, .dataDir⟩, Node.dir), (⟨.top, .stmt⟩, .file [.orig (u .stmt) { kind := .data }]),
                      (⟨.top, .outputDir⟩, Node.dir), (⟨.top, .report⟩, .file [.orig (u .report) { kind := .other }])]
      else [])

/-- the budget of shape `s` in a folder where the user keeps files of their own next to tally's. The one such file a tally command
    has an opinion about is `.gitignore` (`init` writes a starter one when there is none): here it is the user's, opaque content. -/
def Shape.fsWith (s : Shape) (gitignore : Bool) (u : Rel → κ) : FS κ :=
  s.fs u ++ optFile gitignore ⟨.top, .gitignore⟩ (.orig (u .gitignore) { kind := .other })

/-- old-layout budgets for the layout migration -/
structure LShape where
  data : Bool
  output : Bool
  tallyDir : Bool       -- an (empty) ./tally already exists
  schema : Bool         -- config/.tally-schema says 1 already
  csvRules : Bool       -- rules are the legacy CSV (else merchants.rules referenced from settings)
  deriving DecidableEq, Repr, Inhabited

def allLShapes : List LShape :=
  bools.flatMap fun a => bools.flatMap fun b => bools.flatMap fun c => bools.flatMap fun d =>
  bools.map fun e => ⟨a, b, c, d, e⟩

def LShape.fs (s : LShape) (u : Rel → κ) : FS κ :=
  [(⟨.top, .configDir⟩, Node.dir)]
  ++ (if s.csvRules then
        [(⟨.top, .settings⟩, Node.file [.orig (u .settings) (settingsMeta .plain false)]),
         (⟨.top, .csv⟩, .file [.orig (u .csv) { kind := .csvRules }])]
      else
        [(⟨.top, .settings⟩, Node.file [.orig (u .settings) (settingsMeta .keyRules false)]),
         (⟨.top, .rules⟩, .file [.orig (u .rules) { kind := .rulesFile }])])
  ++ (if s.schema then [(⟨.top, .schema⟩, Node.file [.starter .schema])] else [])
  ++ (if s.data then [(⟨.top, .dataDir⟩, Node.dir), (⟨.top, .stmt⟩, .file [.orig (u .stmt) { kind := .data }])] else [])
  ++ (if s.output then [(⟨.top, .outputDir⟩, Node.dir), (⟨.top, .report⟩, .file [.orig (u .report) { kind := .other }])] else [])
  ++ (if s.tallyDir then [(⟨.top, .tallyDir⟩, Node.dir)] else [])

def allPartials : List Partial := [.empty, .half, .full]

/-! ## the safety predicate of C15 -/

section Safe
variable [DecidableEq κ]

/-- every file of `fs₀` is still somewhere with its content (settings.yaml may have gained lines) -/
def preserved (fs₀ fs : FS κ) : Bool :=
  fs₀.all fun e =>
    match e.2 with
    | .dir => true
    | .file c =>
      fs.any fun e' =>
        match e'.2 with
        | .dir => false
        | .file c' => decide (c' = c) || (decide (e.1.rel = .settings) && decide (e'.1.rel = .settings) && c.isPrefixOf c')

def Eff.equiv (a b : Eff κ) : Bool := a.rules.equiv b.rules && decide (a.data = b.data)

/-- "classifying with an empty rule set while the user's rules still exist on disk" -/
def stranded (fs : FS κ) : Bool := (effective fs).rules.isEmpty && rulesOnDisk fs

/-- `Safe fs₀ fs` for the command `p`: nothing lost; classifies as before, now or after re-running `p`;
    not stranded.  The last two clauses are about budgets that classified with the user's rules before. -/
def safeB (v : Variants) (p : Prog) (fs₀ fs : FS κ) : Bool :=
  preserved fs₀ fs &&
  (!(effective fs₀).rules.usable ||
    (((effective fs₀).equiv (effective fs) || (effective fs₀).equiv (effective (rerun v p fs)))
     && !stranded fs))

/-- the run in which the fault happened either stopped or used the user's rules -/
def runOk (fs₀ fs : FS κ) (o : RunOut κ) : Bool :=
  !(effective fs₀).rules.usable ||
  (match o with
   | .error => true
   | .used r => (effective fs₀).rules.equiv r && !(r.isEmpty && rulesOnDisk fs))

end Safe

def Safe [DecidableEq κ] (v : Variants) (p : Prog) (fs₀ fs : FS κ) : Prop := safeB v p fs₀ fs = true

def SafeRun [DecidableEq κ] (v : Variants) (p : Prog) (fs₀ : FS κ) (r : FS κ × RunOut κ) : Prop :=
  safeB v p fs₀ r.1 = true ∧ (p = .upMigrate → runOk fs₀ r.1 r.2 = true)

instance [DecidableEq κ] (v : Variants) (p : Prog) (fs₀ fs : FS κ) : Decidable (Safe v p fs₀ fs) := by
  unfold Safe; infer_instance

instance [DecidableEq κ] (v : Variants) (p : Prog) (fs₀ : FS κ) (r : FS κ × RunOut κ) :
    Decidable (SafeRun v p fs₀ r) := by
  unfold SafeRun; infer_instance

/-! ## call-order signatures (tie to `Gen/FsSteps.lean`, extracted from the source by `fs_steps.py`) -/

/-- the path expressions that occur as arguments of file-system calls in the migration functions -/
inductive Target
  | rules | rulesTmp | rulesBakFresh | csv | csvBakFixed | csvBakFresh | settings | views | gitignore
  | configDir | dataDir | outputDir | tallyDir | oldConfig | newConfig | subdirOld | subdirNew | schema
  deriving DecidableEq, Repr, Inhabited

inductive Fn | migrateCsv | initConfig
  deriving DecidableEq, Repr, Inhabited

inductive FsCall
  | openW (t : Target) | openA (t : Target) | move (a b : Target) | replace (a b : Target)
  | makedirs (t : Target) | call (f : Fn)
  /-- `for subdir in ['data', 'output']:` around the calls that follow, up to `endLoop` -/
  | loopDataOutput | endLoop
  deriving DecidableEq, Repr, Inhabited

def CsvVariant.calls (v : CsvVariant) : List FsCall :=
  (if v.fresh then [.move .rules .rulesBakFresh] else []) ++
  (if v.reorder then [.openW .rulesTmp, .replace .rulesTmp .rules, .openA .settings] else [.openW .rules]) ++
  [.move .csv (if v.fresh then .csvBakFresh else .csvBakFixed)] ++
  (if v.reorder then [] else [.openA .settings])

def LayoutVariant.calls : LayoutVariant → List FsCall
  | .impl => [.makedirs .tallyDir, .move .oldConfig .newConfig, .loopDataOutput, .move .subdirOld .subdirNew, .endLoop,
              .openW .schema]
  | .configLast => [.makedirs .tallyDir, .loopDataOutput, .move .subdirOld .subdirNew, .endLoop,
                    .move .oldConfig .newConfig, .openW .schema]

def initConfigCalls : List FsCall :=
  [.makedirs .configDir, .makedirs .dataDir, .makedirs .outputDir,
   .openW .settings, .openW .rules, .openW .views, .openW .gitignore]

def cmdInitCalls : List FsCall := [.call .migrateCsv, .call .initConfig, .openA .settings]

def allCsvVariants : List CsvVariant :=
  bools.flatMap fun a => bools.flatMap fun b => bools.map fun c => ⟨a, b, c⟩

/-- which modelled variant has this call order (`mentionTest`: the code tests the *text* `'merchants_file:' in content`) -/
def detectCsv (calls : List FsCall) (mentionTest : Bool) : Option CsvVariant :=
  allCsvVariants.find? fun v => decide (v.calls = calls) && (v.keyCheck != mentionTest)

def detectLayout (calls : List FsCall) : Option LayoutVariant :=
  [LayoutVariant.impl, .configLast].find? fun v => decide (v.calls = calls)

/-- the model's own trace, projected to the calls a signature lists -/
def Ev.toCall (loc : Loc) : Ev κ → Option FsCall
  | .openW p => if p.rel = .rules then some (.openW .rules) else if p.rel = .rulesTmp then some (.openW .rulesTmp)
                else if p.rel = .schema then some (.openW .schema) else if p.rel = .settings then some (.openW .settings)
                else if p.rel = .views then some (.openW .views) else if p.rel = .gitignore then some (.openW .gitignore)
                else Option.none
  | .openA p => if p = ⟨loc, .settings⟩ then some (.openA .settings) else Option.none
  | .move a b =>
    if a.rel = .csv then some (.move .csv (if b.rel = .csvBak then .csvBakFixed else .csvBakFresh))
    else if a.rel = .rules then some (.move .rules .rulesBakFresh) else Option.none
  | .replace _ _ => some (.replace .rulesTmp .rules)
  | .mkdir p => if p.rel = .tallyDir then some (.makedirs .tallyDir) else if p.rel = .configDir then some (.makedirs .configDir)
                else if p.rel = .dataDir then some (.makedirs .dataDir) else if p.rel = .outputDir then some (.makedirs .outputDir)
                else Option.none
  | .moveDir d => if d = .configDir then some (.move .oldConfig .newConfig) else some (.move .subdirOld .subdirNew)
  | _ => Option.none

/-- unfold `for subdir in ['data', 'output']` (two iterations) in a call signature -/
def expandLoops : List FsCall → Option (List FsCall) → List FsCall
  | [], _ => []
  | .loopDataOutput :: rest, _ => expandLoops rest (some [])
  | .endLoop :: rest, some body => body ++ body ++ expandLoops rest Option.none
  | .endLoop :: rest, Option.none => expandLoops rest Option.none
  | c :: rest, some body => expandLoops rest (some (body ++ [c]))
  | c :: rest, Option.none => c :: expandLoops rest Option.none

def traceCalls (m : M κ) : List FsCall := m.evs.filterMap fun e => e.1.toCall .top

/-! ## exhaustive checks (`crashCheck`: evaluated by `decide +kernel` for the layout migration, `Lemmas/FsLayout.lean` and
`Props/C15.lean`; for the CSV migration C15 argues, and evaluates only `upRunCheck` of `Lemmas/FsBase.lean`) -/

/-- the free content assignment: every user file holds its own distinct opaque symbol -/
abbrev Sym := Rel

def crashCheck (v : Variants) (p : Prog) (fs₀ : FS Sym) : Bool :=
  (⟨(complete v p fs₀).fs, none⟩ :: snapshots v p fs₀).all fun s =>
    match s.fl with
    | none => safeB v p fs₀ s.fs
    | some _ => allPartials.all fun part => safeB v p fs₀ (materialize part s)

def faultCheck (v : Variants) (p : Prog) (fs₀ : FS Sym) : Bool :=
  (List.range (numEvents v p fs₀)).all fun k =>
    let r := faultAt v p fs₀ k
    safeB v p fs₀ r.1 && (p != .upMigrate || runOk fs₀ r.1 r.2)

end TallyVerif.Fs
