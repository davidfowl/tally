/-
M-Config — from `settings.yaml` to what `tally up` parses (property C11, settings resolution).

`resolveSource`  mirrors `config_loader.resolve_source_format`
`resolveConfig`  mirrors `config_loader.load_config` (after `yaml.safe_load`, which stays a trusted parser: the loaded
                 object arrives as a value of `Y`)
`planSources`    mirrors the way `commands/run.cmd_run` consumes the resolved config: the removed-setting exit, the
                 "no data sources" exit, the crash conditions of `load_supplemental_sources`, then `for source in
                 data_sources:` — supplemental sources skipped, `source['file']` resolved against the budget directory,
                 missing files skipped, the parser chosen — i.e. EXACTLY the calls `parse_amex` / `parse_boa` /
                 `parse_generic_csv` that are made, in order, with their arguments
`readArgs`       mirrors what `parse_generic_csv` / `_iter_rows_with_delimiter` / `parse_amount` make of those arguments
                 (Python truthiness of `has_header` / `negate_amount`, the spellings of `delimiter`, `decimal_separator == ','`)

The code is dynamically typed and the model keeps that: a setting is ANY YAML value; where the code copies a value
verbatim (`format_spec.delimiter = source['delimiter']`) the model carries the value, where it tests truthiness the model
tests `Y.truthy`, where Python raises (`.lower()` on a number, `os.path.join` with a list, `.split` on null, iterating an
int) the model returns that exception as an error VALUE.  Constants (removed keys, rule modes, defaults, the legacy CSV
name, the special parser types) come from `Gen/ConfigTables.lean`, REGENERATED from the sources on every run.

Parameters (not tally code): `Fmt.Ext` (what CPython does to non-ASCII text in `str.lower` / `\w` / `isspace`),
`exists` (`os.path.exists`), `viewsLoad` (does `section_engine.load_sections` accept the views file — modelled in C10/C17),
the absolute path of the config directory.  `posixpath.join / dirname / normpath` are modelled (`pjoin2`, `dirname`,
`normpath`) and tied to CPython by a dense correspondence stream.
Core Lean only (linked into `tvdrv`).
-/
import TallyVerif.Model.Fmt
import TallyVerif.Model.Csv
import TallyVerif.Gen.ConfigTables

namespace TallyVerif.Config
open TallyVerif.Gen

abbrev Str := List Char

/-! ### YAML values, as `yaml.safe_load` returns them -/

/-- `None | bool | int | float (IEEE bits) | str | list | dict` (insertion-ordered).  A mapping key that is not a string
(YAML allows `1:`, `true:`, `~:`) is shipped as a string that starts with U+0000 — a character no YAML stream can contain — so
it is different from every key the code looks up, as in Python. -/
inductive Y
  | null
  | bool (b : Bool)
  | int (n : Int)
  | float (bits : Nat)
  | str (s : Str)
  | list (xs : List Y)
  | map (kvs : List (Str × Y))
deriving Repr, Inhabited

mutual
def Y.beq : Y → Y → Bool
  | .null, .null => true
  | .bool a, .bool b => a == b
  | .int a, .int b => a == b
  | .float a, .float b => a == b
  | .str a, .str b => a == b
  | .list a, .list b => Y.beqList a b
  | .map a, .map b => Y.beqMap a b
  | _, _ => false
def Y.beqList : List Y → List Y → Bool
  | [], [] => true
  | x :: xs, y :: ys => Y.beq x y && Y.beqList xs ys
  | _, _ => false
def Y.beqMap : List (Str × Y) → List (Str × Y) → Bool
  | [], [] => true
  | (k, x) :: xs, (l, y) :: ys => k == l && Y.beq x y && Y.beqMap xs ys
  | _, _ => false
end

mutual
theorem Y.eq_of_beq : ∀ a b : Y, Y.beq a b = true → a = b
  | .null, b, h | .bool _, b, h | .int _, b, h | .float _, b, h | .str _, b, h => by cases b <;> simp_all [Y.beq]
  | .list x, b, h => by
    cases b <;> simp only [Y.beq, Bool.false_eq_true] at h
    rw [Y.eq_of_beqList x _ h]
  | .map x, b, h => by
    cases b <;> simp only [Y.beq, Bool.false_eq_true] at h
    rw [Y.eq_of_beqMap x _ h]
theorem Y.eq_of_beqList : ∀ a b : List Y, Y.beqList a b = true → a = b
  | [], b, h => by cases b <;> simp_all [Y.beqList]
  | x :: xs, b, h => by
    cases b with
    | nil => simp [Y.beqList] at h
    | cons y ys =>
      simp only [Y.beqList, Bool.and_eq_true] at h
      rw [Y.eq_of_beq x y h.1, Y.eq_of_beqList xs ys h.2]
theorem Y.eq_of_beqMap : ∀ a b : List (Str × Y), Y.beqMap a b = true → a = b
  | [], b, h => by cases b <;> simp_all [Y.beqMap]
  | (k, x) :: xs, b, h => by
    cases b with
    | nil => simp [Y.beqMap] at h
    | cons p ys =>
      obtain ⟨l, y⟩ := p
      simp only [Y.beqMap, Bool.and_eq_true, beq_iff_eq] at h
      rw [h.1.1, Y.eq_of_beq x y h.1.2, Y.eq_of_beqMap xs ys h.2]
end

mutual
theorem Y.beq_refl : ∀ a : Y, Y.beq a a = true
  | .null => rfl
  | .bool _ | .int _ | .float _ | .str _ => by simp [Y.beq]
  | .list x => by simp only [Y.beq]; exact Y.beqList_refl x
  | .map x => by simp only [Y.beq]; exact Y.beqMap_refl x
theorem Y.beqList_refl : ∀ a : List Y, Y.beqList a a = true
  | [] => rfl
  | x :: xs => by simp only [Y.beqList, Y.beq_refl x, Y.beqList_refl xs, Bool.and_self]
theorem Y.beqMap_refl : ∀ a : List (Str × Y), Y.beqMap a a = true
  | [] => rfl
  | (k, x) :: xs => by simp only [Y.beqMap, Y.beq_refl x, Y.beqMap_refl xs, beq_self_eq_true, Bool.and_self]
end

instance : DecidableEq Y := fun a b =>
  if h : Y.beq a b = true then isTrue (Y.eq_of_beq a b h)
  else isFalse (fun e => h (e ▸ Y.beq_refl a))

/-- `bool(v)`: None, False, 0, ±0.0, '', [] and {} are false; everything else (NaN included) is true -/
def Y.truthy : Y → Bool
  | .null => false
  | .bool b => b
  | .int n => n != 0
  | .float bits => !(bits == 0 || bits == 2 ^ 63)
  | .str s => !s.isEmpty
  | .list xs => !xs.isEmpty
  | .map kvs => !kvs.isEmpty

/-! ### dicts -/

abbrev Dict := List (Str × Y)

/-- `d.get(k)` (`none`: the key is absent).  A loaded mapping has no key twice; on a list that has, the first entry counts. -/
def get (k : Str) : Dict → Option Y
  | [] => none
  | (k', v) :: r => if k' = k then some v else get k r

/-- `k in d` -/
def has (k : Str) (d : Dict) : Bool := (get k d).isSome

/-- `d` without the key `k` -/
def erase (k : Str) (d : Dict) : Dict := d.filter (fun p => p.1 != k)

/-- `d` with `k: v` (wherever it stands: the code only looks keys up) -/
def insert (k : Str) (v : Y) (d : Dict) : Dict := (k, v) :: erase k d

/-! ### the keys the code reads (pinned against the regenerated tables at the end of the file) -/

def kName : Str := ['n', 'a', 'm', 'e']
def kFile : Str := ['f', 'i', 'l', 'e']
def kFormat : Str := ['f', 'o', 'r', 'm', 'a', 't']
def kType : Str := ['t', 'y', 'p', 'e']
def kColumns : Str := ['c', 'o', 'l', 'u', 'm', 'n', 's']
def kDescription : Str := ['d', 'e', 's', 'c', 'r', 'i', 'p', 't', 'i', 'o', 'n']
def kDelimiter : Str := ['d', 'e', 'l', 'i', 'm', 'i', 't', 'e', 'r']
def kHasHeader : Str := ['h', 'a', 's', '_', 'h', 'e', 'a', 'd', 'e', 'r']
def kNegateAmount : Str := ['n', 'e', 'g', 'a', 't', 'e', '_', 'a', 'm', 'o', 'u', 'n', 't']
def kSupplemental : Str := ['s', 'u', 'p', 'p', 'l', 'e', 'm', 'e', 'n', 't', 'a', 'l']
def kDecimalSeparator : Str := ['d', 'e', 'c', 'i', 'm', 'a', 'l', '_', 's', 'e', 'p', 'a', 'r', 'a', 't', 'o', 'r']
def kDataSources : Str := ['d', 'a', 't', 'a', '_', 's', 'o', 'u', 'r', 'c', 'e', 's']
def kRuleMode : Str := ['r', 'u', 'l', 'e', '_', 'm', 'o', 'd', 'e']
def kMerchantsFile : Str := ['m', 'e', 'r', 'c', 'h', 'a', 'n', 't', 's', '_', 'f', 'i', 'l', 'e']
def kViewsFile : Str := ['v', 'i', 'e', 'w', 's', '_', 'f', 'i', 'l', 'e']
def kDescriptionCleaning : Str :=
  ['d', 'e', 's', 'c', 'r', 'i', 'p', 't', 'i', 'o', 'n', '_', 'c', 'l', 'e', 'a', 'n', 'i', 'n', 'g']
def sAmex : Str := ['a', 'm', 'e', 'x']
def sBoa : Str := ['b', 'o', 'a']
def sFirstMatch : Str := ['f', 'i', 'r', 's', 't', '_', 'm', 'a', 't', 'c', 'h']
def sMostSpecific : Str := ['m', 'o', 's', 't', '_', 's', 'p', 'e', 'c', 'i', 'f', 'i', 'c']

/-! ### `posixpath` -/

/-- `os.path.join(a, b)` -/
def pjoin2 (a b : Str) : Str :=
  if b.head? = some '/' then b
  else if a.isEmpty || a.getLast? = some '/' then a ++ b
  else a ++ '/' :: b

/-- `os.path.join(a, *ps)` -/
def pjoin (a : Str) (ps : List Str) : Str := ps.foldl pjoin2 a

/-- `s.rstrip('/')` -/
def rstripSlash (s : Str) : Str := (s.reverse.dropWhile (· == '/')).reverse

/-- `os.path.dirname(p)` -/
def dirname (p : Str) : Str :=
  let head := (p.reverse.dropWhile (· != '/')).reverse
  if !head.isEmpty && !head.all (· == '/') then rstripSlash head else head

/-- `p.split('/')` -/
def splitSlash : Str → List Str
  | [] => [[]]
  | c :: cs =>
    match splitSlash cs with
    | [] => [[]]
    | p :: ps => if c = '/' then [] :: p :: ps else (c :: p) :: ps

/-- `'/'.join(parts)` -/
def joinSlash : List Str → Str
  | [] => []
  | [p] => p
  | p :: q :: r => p ++ '/' :: joinSlash (q :: r)

def dotdot : Str := ['.', '.']

/-- one iteration of `for comp in comps:` of `normpath` -/
def normStep (rooted : Bool) (acc : List Str) (comp : Str) : List Str :=
  if comp.isEmpty || comp = ['.'] then acc
  else if comp ≠ dotdot || (!rooted && acc.isEmpty) || acc.getLast? = some dotdot then acc ++ [comp]
  else acc.dropLast

/-- `os.path.normpath(p)` (lexical: `a/../b` is `b` whatever `a` is on disk) -/
def normpath (p : Str) : Str :=
  if p.isEmpty then ['.'] else
  let slashes : Nat :=
    if p.head? = some '/' then (if p.take 2 = ['/', '/'] && p.take 3 ≠ ['/', '/', '/'] then 2 else 1) else 0
  let comps := (splitSlash p).foldl (normStep (slashes != 0)) []
  let r := List.replicate slashes '/' ++ joinSlash comps
  if r.isEmpty then ['.'] else r

/-! ### the errors the code raises, by raise site -/

inductive CfgErr
  | notAMapping                       -- AttributeError: `.get` / `.copy` on something that is not a dict
  | removedKey (k : Str)              -- ValueError: `account_type` / `skip_negative`
  | formatNotStr                      -- AttributeError: `format_str.split(',')`
  | badFormat (e : Fmt.Err)           -- ValueError: "Invalid format for source …" (a KeyError for `Fmt.Err.keyError`)
  | templateNotStr                    -- TypeError: `re.findall(…, description_template)` on a truthy non-string
  | typeNotStr                        -- AttributeError: `source['type'].lower()`
  | unknownType                       -- ValueError: "Unknown source type"
  | noFormat                          -- ValueError: "must specify 'format'"
  | sourcesNotIterable                -- TypeError: `for source in <truthy int / float / bool>`
  | pathNotStr (key : Str)            -- TypeError: `os.path.join(budget_dir, <truthy non-string>)`
  | viewsRaises (cls : Str)           -- `load_sections` raises something that is not SectionParseError (a directory, bytes that are not UTF-8)
deriving DecidableEq, Repr

inductive PyExc | valueError | attributeError | typeError | keyError | systemExit | other (cls : Str)
deriving DecidableEq, Repr

/-- the Python exception class of an error -/
def CfgErr.cls : CfgErr → PyExc
  | .notAMapping | .formatNotStr | .typeNotStr => .attributeError
  | .removedKey _ | .unknownType | .noFormat => .valueError
  | .badFormat e => if e = .keyError then .keyError else .valueError
  | .templateNotStr | .sourcesNotIterable | .pathNotStr _ => .typeError
  | .viewsRaises c => .other c

/-! ### `resolve_source_format` -/

/-- the `FormatSpec` of a `format:` source after "Apply explicit settings": what `parse_format_string` returned (`base`)
and the values copied VERBATIM from the source dict — whatever their type -/
structure GenericSpec where
  base : Fmt.FormatSpec
  /-- `format_spec.description_template` as stored (`columns.description`, any value; `null` when there is none) -/
  template : Y
  /-- `format_spec.delimiter`: `source['delimiter']` if the key is there, else None -/
  delimiter : Y
  /-- `format_spec.has_header`: `source['has_header']` if the key is there, else True -/
  hasHeader : Y
  /-- `format_spec.negate_amount`: `source['negate_amount']` if the key is there, else what `{-amount}` said -/
  negateAmount : Y
deriving DecidableEq, Repr

inductive Parser
  | special (type : Str)              -- `_parser_type` = the lower-cased `type:`; `_format_spec` = None
  | generic (g : GenericSpec)         -- `_parser_type` = 'generic'
deriving DecidableEq, Repr

/-- a resolved data source: everything `cmd_run` / `load_supplemental_sources` later read from the dict -/
structure SourceCfg where
  /-- `source['name']` (`none`: the key is absent — the call sites have three different defaults) -/
  name : Option Y
  /-- `source['file']` -/
  file : Option Y
  parser : Parser
  /-- `_supplemental` = `source.get('supplemental', False)`: any value; consumers test its truthiness -/
  supplemental : Y
  /-- `source.get('decimal_separator', '.')` -/
  decimalSeparator : Y
deriving DecidableEq, Repr

/-- `columns.get('description') if isinstance(columns, dict) else None` -/
def templateOf (src : Dict) : Y :=
  match get kColumns src with
  | some (.map m) => (get kDescription m).getD .null
  | _ => .null

/-- the `ValueError`s `parse_format_string` raises BEFORE it looks into the description template -/
def errBeforeTemplate : Fmt.Err → Bool
  | .invalidToken _ | .dupField _ | .dupCustom _ | .noDescription => true
  | _ => false

/-- `parse_format_string(source['format'], description_template)` for ARBITRARY values: the format must be a string
(`.split`); a template that is a string goes to the C18 model; a falsy non-string (None, False, 0, [], {}) is "no
template"; a truthy non-string passes every `not description_template` test and then breaks `re.findall` (TypeError) —
unless one of the earlier checks has already raised -/
def parseFormatY (e : Fmt.Ext) (fmt tmpl : Y) : Except CfgErr Fmt.FormatSpec :=
  match fmt with
  | .str f =>
    match tmpl with
    | .str t => (Fmt.Impl.parseFormat e f (some t)).mapError .badFormat
    | _ =>
      if tmpl.truthy then
        match Fmt.Impl.parseFormat e f (some ['x']) with
        | .error err => if errBeforeTemplate err then .error (.badFormat err) else .error .templateNotStr
        | .ok _ => .error .templateNotStr
      else (Fmt.Impl.parseFormat e f none).mapError .badFormat
  | _ => .error .formatNotStr

/-- the `if 'format' in source:` branch -/
def resolveGeneric (e : Fmt.Ext) (src : Dict) (fmt : Y) : Except CfgErr GenericSpec :=
  (parseFormatY e fmt (templateOf src)).map fun spec =>
    { base := spec
      template := templateOf src
      delimiter := (get kDelimiter src).getD .null
      hasHeader := (get kHasHeader src).getD (.bool ConfigTables.SPEC_HAS_HEADER_DEFAULT)
      negateAmount := (get kNegateAmount src).getD (.bool spec.negateAmount) }

/-- the `elif 'type' in source:` branch: `source['type'].lower()`, then `is_special_parser_type` (which lower-cases again) -/
def resolveSpecial (e : Fmt.Ext) : Y → Except CfgErr Parser
  | .str t =>
    let lt := e.lower t
    if ConfigTables.SPECIAL_PARSERS.contains (e.lower lt) then .ok (.special lt) else .error .unknownType
  | _ => .error .typeNotStr

def mkSource (src : Dict) (p : Parser) : SourceCfg :=
  { name := get kName src, file := get kFile src, parser := p,
    supplemental := (get kSupplemental src).getD (.bool false),
    decimalSeparator := (get kDecimalSeparator src).getD (.str ConfigTables.DECIMAL_DEFAULT) }

/-- `resolve_source_format(source)` -/
def resolveSource (e : Fmt.Ext) : Y → Except CfgErr SourceCfg
  | .map src =>
    match ConfigTables.REMOVED_SOURCE_KEYS.find? (fun k => has k src) with
    | some k => .error (.removedKey k)
    | none =>
      match get kFormat src with
      | some fmt => (resolveGeneric e src fmt).map fun g => mkSource src (.generic g)
      | none =>
        match get kType src with
        | some t => (resolveSpecial e t).map fun p => mkSource src p
        | none => .error .noFormat
  | _ => .error .notAMapping

/-! ### `load_config` -/

inductive RuleMode | firstMatch | mostSpecific
deriving DecidableEq, Repr

/-- `_merchants_file` / `_merchants_format` -/
inductive RulesFile
  | new (path : Str)                  -- `merchants_file:` names a file that exists: format 'new'
  | csv (path : Str)                  -- no `merchants_file:` and `config/merchant_categories.csv` exists: format 'csv'
  | none                              -- (None, None)
deriving DecidableEq, Repr

/-- the entries of `config['_warnings']` -/
inductive Warning
  | deprecatedParser (type : Str)     -- type 'deprecated': a `type: amex|boa` source
  | removedSettings (keys : List Str) -- type 'deprecated': home_locations / home_state / travel_labels
  | invalidRuleMode                   -- type 'warning'
  | merchantsNotFound                 -- type 'warning'
  | viewsError                        -- type 'error': the views file does not parse
  | viewsNotFound                     -- type 'warning'
deriving DecidableEq, Repr

/-- `warning['type']` -/
def Warning.type : Warning → Str
  | .deprecatedParser _ | .removedSettings _ => ['d', 'e', 'p', 'r', 'e', 'c', 'a', 't', 'e', 'd']
  | .invalidRuleMode | .merchantsNotFound | .viewsNotFound => ['w', 'a', 'r', 'n', 'i', 'n', 'g']
  | .viewsError => ['e', 'r', 'r', 'o', 'r']

/-- `load_sections(path)`: the views, a `SectionParseError` (caught: a warning), or any other exception (not caught) -/
inductive ViewsOutcome | loaded | parseError | raises (cls : Str)
deriving DecidableEq, Repr

/-- the world outside the settings object -/
structure Env where
  ext : Fmt.Ext
  /-- `os.path.abspath(config_dir)` -/
  cfgDir : Str
  /-- `os.path.exists` -/
  pathExists : Str → Bool
  /-- what `load_sections(path)` does with a file that exists -/
  viewsLoad : Str → ViewsOutcome

structure Config where
  sources : List SourceCfg
  ruleMode : RuleMode
  rulesFile : RulesFile
  /-- `_views_file` (`some`: the views were loaded from that path) -/
  viewsFile : Option Str
  warnings : List Warning
  /-- `config.get('description_cleaning')` (None when absent): a truthy value ends `cmd_run` before it reads anything -/
  descriptionCleaning : Y
deriving DecidableEq, Repr

/-- `[resolve_source_format(source) for source in …]`: the first source that raises aborts the comprehension -/
def resolveAll (e : Fmt.Ext) : List Y → Except CfgErr (List SourceCfg)
  | [] => .ok []
  | y :: ys =>
    match resolveSource e y with
    | .error err => .error err
    | .ok s =>
      match resolveAll e ys with
      | .error err => .error err
      | .ok ss => .ok (s :: ss)

/-- `if config.get('data_sources'): [… for source in config['data_sources']] else: []`.  Iterating a dict or a string yields
strings (`.copy()`: AttributeError); a truthy number or `true` is not iterable (TypeError) -/
def resolveSources (e : Fmt.Ext) (ds : Option Y) : Except CfgErr (List SourceCfg) :=
  match ds with
  | none => .ok []
  | some v =>
    if !v.truthy then .ok [] else
    match v with
    | .list xs => resolveAll e xs
    | .map _ | .str _ => .error .notAMapping
    | _ => .error .sourcesNotIterable

/-- the `deprecated` warnings `resolve_source_format` appends, in source order -/
def parserWarnings (ss : List SourceCfg) : List Warning :=
  ss.filterMap fun s => match s.parser with
    | .special t => some (.deprecatedParser t)
    | .generic _ => none

def removedWarnings (c : Dict) : List Warning :=
  match ConfigTables.REMOVED_SETTINGS.filter (fun k => has k c) with
  | [] => []
  | ks => [.removedSettings ks]

/-- `rule_mode = config.get('rule_mode', 'first_match')`; anything that is not one of the two strings: a warning, and
`first_match` -/
def resolveRuleMode (c : Dict) : RuleMode × List Warning :=
  match get kRuleMode c with
  | none => (.firstMatch, [])
  | some (.str s) =>
    if s = sMostSpecific then (.mostSpecific, [])
    else if s = sFirstMatch then (.firstMatch, [])
    else (.firstMatch, [.invalidRuleMode])
  | some _ => (.firstMatch, [.invalidRuleMode])

/-- the `merchants_file` block -/
def resolveRulesFile (env : Env) (c : Dict) : Except CfgErr (RulesFile × List Warning) :=
  let mf := (get kMerchantsFile c).getD .null
  if mf.truthy then
    match mf with
    | .str s =>
      let p := pjoin2 (dirname env.cfgDir) s
      if env.pathExists p then .ok (.new p, []) else .ok (.none, [.merchantsNotFound])
    | _ => .error (.pathNotStr kMerchantsFile)
  else
    let p := pjoin2 env.cfgDir ConfigTables.LEGACY_CSV_NAME
    if env.pathExists p then .ok (.csv p, []) else .ok (.none, [])

/-- the `views_file` block -/
def resolveViewsFile (env : Env) (c : Dict) : Except CfgErr (Option Str × List Warning) :=
  let vf := (get kViewsFile c).getD .null
  if vf.truthy then
    match vf with
    | .str s =>
      let p := pjoin2 (dirname env.cfgDir) s
      if env.pathExists p then
        match env.viewsLoad p with
        | .loaded => .ok (some p, [])
        | .parseError => .ok (none, [.viewsError])
        | .raises cls => .error (.viewsRaises cls)
      else .ok (none, [.viewsNotFound])
    | _ => .error (.pathNotStr kViewsFile)
  else .ok (none, [])

/-- `load_config(config_dir)` on the loaded settings object -/
def resolveConfig (env : Env) : Y → Except CfgErr Config
  | .map c =>
    match resolveSources env.ext (get kDataSources c) with
    | .error err => .error err
    | .ok ss =>
      let (mode, wm) := resolveRuleMode c
      match resolveRulesFile env c with
      | .error err => .error err
      | .ok (rf, wr) =>
        match resolveViewsFile env c with
        | .error err => .error err
        | .ok (vf, wv) =>
          .ok { sources := ss, ruleMode := mode, rulesFile := rf, viewsFile := vf,
                warnings := parserWarnings ss ++ removedWarnings c ++ wm ++ wr ++ wv,
                descriptionCleaning := (get kDescriptionCleaning c).getD .null }
  | _ => .error .notAMapping

/-- `get_all_rules` / `get_transforms` decide by the NAME of the file, not by `_merchants_format`: a path that ends in
`.rules` is loaded by the rule engine, any other file is read as a legacy CSV -/
def endsWithRules (p : Str) : Bool := ['.', 'r', 'u', 'l', 'e', 's'].isSuffixOf p

inductive RulesKind | engine (path : Str) | legacyCsv (path : Str) | noRules
deriving DecidableEq, Repr

def RulesFile.kind : RulesFile → RulesKind
  | .new p => if endsWithRules p then .engine p else .legacyCsv p
  | .csv p => if endsWithRules p then .engine p else .legacyCsv p
  | .none => .noRules

/-! ### `cmd_run`: what is parsed -/

/-- how a run of `tally up` ends before (or instead of) producing a report, as far as the settings decide it -/
inductive RunErr
  | descriptionCleaning               -- the removed setting is there: message, exit 1
  | noDataSources                     -- "Error: No data sources configured", exit 1
  | keyError (k : Str)                -- `source['file']` (`source['name']` on a progress line: repaired in /repo aa7bfcd, F11-name)
  | typeError                         -- `os.path.join(config_dir, '..', <not a string>)`
  | attributeError                    -- `source.get('name', '').lower()` on a supplemental source whose name is no string
deriving DecidableEq, Repr

def RunErr.cls : RunErr → PyExc
  | .descriptionCleaning | .noDataSources => .systemExit
  | .keyError _ => .keyError
  | .typeError => .typeError
  | .attributeError => .attributeError

/-- `_check_deprecated_description_cleaning`: a truthy `description_cleaning` prints migration advice for `patterns[:3]` (each
pattern through `str.replace`) and exits; a value that cannot be sliced or whose first entries are not strings raises instead
(slicing a dict: KeyError on CPython ≥ 3.12, where slices are hashable) -/
def cleaningOutcome (v : Y) : Option RunErr :=
  if !v.truthy then none else
  match v with
  | .str _ => some .descriptionCleaning
  | .list xs => if (xs.take 3).all (fun x => match x with | .str _ => true | _ => false) then some .descriptionCleaning
                else some .attributeError
  | .map _ => some (.keyError [])
  | _ => some .typeError

/-- a parser call `cmd_run` makes -/
inductive Call
  | amex                              -- `parse_amex(filepath, rules)`
  | boa                               -- `parse_boa(filepath, rules)`
  /-- `parse_generic_csv(filepath, format_spec, rules, source_name=source.get('name', 'CSV'),
  decimal_separator=source.get('decimal_separator', '.'), …)` -/
  | generic (g : GenericSpec) (sourceName : Y) (decimalSeparator : Y)
deriving DecidableEq, Repr

structure Planned where
  /-- position of the source in `data_sources` -/
  index : Nat
  /-- the `filepath` argument -/
  path : Str
  call : Call
deriving DecidableEq, Repr

/-- the file a source's `file:` names: `normpath(join(config_dir, '..', file))`, and when nothing is there
`join(dirname(config_dir), file)`; `none`: neither exists -/
def resolvePath (env : Env) (file : Str) : Option Str :=
  let p1 := normpath (pjoin env.cfgDir [ConfigTables.PARENT_DIR, file])
  if env.pathExists p1 then some p1 else
  let p2 := pjoin2 (dirname env.cfgDir) file
  if env.pathExists p2 then some p2 else none

/-- what `load_supplemental_sources` needs of a source NOT to raise: a supplemental source's name must be a string
(`.lower()`), and unless that name is empty it must have a `file` that is a string.  (Everything after that is inside
`try … except Exception: continue`.) -/
def suppCheck (s : SourceCfg) : Except RunErr Unit :=
  if !s.supplemental.truthy then .ok () else
  match s.name with
  | none => .ok ()
  | some (.str n) =>
    if n.isEmpty then .ok () else
    match s.file with
    | none => .error (.keyError kFile)
    | some (.str _) => .ok ()
    | some _ => .error .typeError
  | some _ => .error .attributeError

def suppCheckAll : List SourceCfg → Except RunErr Unit
  | [] => .ok ()
  | s :: ss =>
    match suppCheck s with
    | .error e => .error e
    | .ok () => suppCheckAll ss

/-- one iteration of `for source in data_sources:` — `none`: the source is skipped (supplemental, file not found, a special
parser type the chain does not know).  Every source that gets past the file lookup is reported on a progress line that
prints the source's name (`source.get('name', 'CSV')` since the F11-name repair) — unless `--quiet` — whatever happens to it:
`quiet` no longer changes the plan (`Props.C11.plan_quiet_irrelevant`). -/
def planOne (quiet : Bool) (env : Env) (idx : Nat) (s : SourceCfg) : Except RunErr (Option Planned) :=
  if s.supplemental.truthy then .ok none else
  match s.file with
  | none => .error (.keyError kFile)
  | some (.str f) =>
    match resolvePath env f with
    | none => .ok none
    | some p =>
      match s.parser with
      | .special t =>
        if t = sAmex then .ok (some ⟨idx, p, .amex⟩)
        else if t = sBoa then .ok (some ⟨idx, p, .boa⟩)
        else .ok none
      | .generic g =>
        .ok (some ⟨idx, p, .generic g (s.name.getD (.str ConfigTables.NAME_DEFAULT)) s.decimalSeparator⟩)
  | some _ => .error .typeError

/-- the loop, from position `idx` on -/
def planFrom (quiet : Bool) (env : Env) : Nat → List SourceCfg → Except RunErr (List Planned)
  | _, [] => .ok []
  | idx, s :: ss =>
    match planOne quiet env idx s with
    | .error e => .error e
    | .ok here =>
      match planFrom quiet env (idx + 1) ss with
      | .error e => .error e
      | .ok rest => .ok (here.toList ++ rest)

/-- **what `tally up` parses**: the parser calls of `cmd_run`, in order, with their arguments — or how the run ends
before the report -/
def planSources (quiet : Bool) (env : Env) (cfg : Config) : Except RunErr (List Planned) :=
  match cleaningOutcome cfg.descriptionCleaning with
  | some e => .error e
  | none =>
    if cfg.sources.isEmpty then .error .noDataSources
    else
      match suppCheckAll cfg.sources with
      | .error e => .error e
      | .ok () => planFrom quiet env 0 cfg.sources

/-! ### what the parser makes of its arguments -/

/-- `_iter_rows_with_delimiter`'s reading of `delimiter`: falsy values are "no delimiter" (`if delimiter and …`), a
string goes to `Csv.delimOf`, any other truthy value has no `.startswith` (AttributeError: the source yields nothing) -/
def delimArg (d : Y) : Except PyExc Csv.Delim :=
  if !d.truthy then .ok (Csv.delimOf none) else
  match d with
  | .str s => .ok (Csv.delimOf (some s))
  | _ => .error .attributeError

/-- `FormatSpec` → the row parser's view of it (C05's `Csv.Spec`); the template is consulted in Mode 2 only, where
`parse_format_string` has made sure it is a non-empty string -/
def toCsvSpec (g : GenericSpec) : Csv.Spec :=
  { dateCol := g.base.dateColumn, dateFormat := g.base.dateFormat, amountCol := g.base.amountColumn,
    descCol := g.base.descriptionColumn, customCaptures := g.base.customCaptures,
    template := match g.template with | .str t => some t | _ => none,
    extraFields := g.base.extraFields, locationCol := g.base.locationColumn, sourceName := none,
    negateAmount := g.negateAmount.truthy, absAmount := g.base.absAmount }

/-- everything `parse_generic_csv` derives from its arguments before it reads a row -/
structure ReadArgs where
  delim : Csv.Delim
  /-- `if has_header:` -/
  hasHeader : Bool
  /-- `decimal_separator == ','` -/
  eu : Bool
  spec : Csv.Spec
  /-- `format_spec.source_name or source_name` (the format never sets a source name) -/
  sourceName : Y

def readArgs (g : GenericSpec) (sourceName decimalSeparator : Y) : Except PyExc ReadArgs :=
  (delimArg g.delimiter).map fun dl =>
    { delim := dl, hasHeader := g.hasHeader.truthy,
      eu := decimalSeparator = .str ConfigTables.EU_SEPARATOR,
      spec := toCsvSpec g, sourceName := sourceName }

/-! ### the model is written over the constants the sources have NOW (a change there stops the build) -/

example : ConfigTables.REMOVED_SOURCE_KEYS.length = 2 ∧ "account_type".toList ∈ ConfigTables.REMOVED_SOURCE_KEYS ∧
    "skip_negative".toList ∈ ConfigTables.REMOVED_SOURCE_KEYS := by decide +kernel
example : ConfigTables.APPLIED_KEYS = [kDelimiter, kHasHeader, kNegateAmount, "tags_from_fields".toList] := by decide +kernel
example : ConfigTables.SOURCE_KEYS_READ = ["account_type".toList, kColumns, kDelimiter, kFile, kFormat, kHasHeader, kName,
    kNegateAmount, "skip_negative".toList, kSupplemental, "tags_from_fields".toList, kType] := by decide +kernel
example : ConfigTables.CONFIG_KEYS_READ = ["currency_format".toList, kDataSources, "home_locations".toList, "home_state".toList,
    kMerchantsFile, kRuleMode, "travel_labels".toList, kViewsFile] := by decide +kernel
example : ConfigTables.RULE_MODES = [sFirstMatch, sMostSpecific] ∧ ConfigTables.DEFAULT_RULE_MODE = sFirstMatch ∧
    ConfigTables.FALLBACK_RULE_MODE = sFirstMatch := by decide +kernel
example : ConfigTables.RUN_PARSER_CHAIN = [sAmex, sBoa, "generic".toList] := by decide +kernel
example : ConfigTables.RUN_SOURCE_KEYS_READ = ["_format_spec".toList, "_parser_type".toList, "_supplemental".toList,
    kDecimalSeparator, kFile, kName, kType] := by decide +kernel
example : ConfigTables.SUPPLEMENTAL_DEFAULT_FALSE = true ∧ ConfigTables.SPEC_DELIMITER_DEFAULT_NONE = true ∧
    ConfigTables.PARENT_DIR = dotdot := by decide

end TallyVerif.Config
